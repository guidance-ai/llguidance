import LlgVerif.Props.C19
#print axioms LlgVerif.negatedRanges_correct
#print axioms LlgVerif.no_marker_in_text
#print axioms LlgVerif.ranges_exact
#print axioms LlgVerif.negLoop_spec
#print axioms LlgVerif.sortByStart_spec
