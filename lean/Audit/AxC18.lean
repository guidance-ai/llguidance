import LlgVerif.Props.C18
import LlgVerif.Props.C01
#print axioms LlgVerif.stop_output_spec
#print axioms LlgVerif.nothing_after_stop
#print axioms LlgVerif.stop_token_flushes
#print axioms LlgVerif.withheld_covers_lookahead
#print axioms LlgVerif.validUtf8Len_bound
#print axioms LlgVerif.eos_iff_accepting
