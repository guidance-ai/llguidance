import LlgVerif.Props.C03
import LlgVerif.Props.C05
import LlgVerif.Props.C05Bytes
#print axioms LlgVerif.no_dead_end
#print axioms LlgVerif.commit_live
#print axioms LlgVerif.live_mask_nonempty
#print axioms LlgVerif.live_has_completion
#print axioms LlgVerif.reach_not_stopped
#print axioms LlgVerif.c05_earley_rows_viable
#print axioms LlgVerif.c05_earley_allowed_lexeme_viable
#print axioms LlgVerif.c05_bytes_prefix_viable
#print axioms LlgVerif.c05_lexer_state_viable
