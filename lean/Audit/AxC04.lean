import LlgVerif.Props.C04
#print axioms LlgVerif.matches_iff_lang
#print axioms LlgVerif.viable_decided
#print axioms LlgVerif.token_allowed_spec
#print axioms LlgVerif.derivN_correct
#print axioms LlgVerif.regex_rep_counts
