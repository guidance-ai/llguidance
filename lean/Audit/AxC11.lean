import LlgVerif.Props.C11
#print axioms LlgVerif.cache_transparent
#print axioms LlgVerif.cacheInv_init
