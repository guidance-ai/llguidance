import LlgVerif.Props.C13
#print axioms LlgVerif.forcedByte_unique
#print axioms LlgVerif.forced_prefix_of_every_completion
#print axioms LlgVerif.ff_tokens_accepted
#print axioms LlgVerif.forceBytes_runs
#print axioms LlgVerif.probeLoop_sound
