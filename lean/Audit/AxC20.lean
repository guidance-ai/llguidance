import LlgVerif.Props.C20
#print axioms LlgVerif.lcm_no_overflow_or_error
#print axioms LlgVerif.stripZeros_value
#print axioms LlgVerif.token_len_total
#print axioms LlgVerif.walk_progress
