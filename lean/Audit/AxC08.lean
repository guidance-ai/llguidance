import LlgVerif.Props.C08
#print axioms LlgVerif.rxIntRange_correct
#print axioms LlgVerif.rxIntRange_sound
#print axioms LlgVerif.intBoth_correct
#print axioms LlgVerif.intBoth_total
#print axioms LlgVerif.intGe_correct
#print axioms LlgVerif.intLe_correct
#print axioms LlgVerif.intAny_correct
#print axioms LlgVerif.nnRange_correct
#print axioms LlgVerif.nnRange_total
#print axioms LlgVerif.nnGe_correct
#print axioms LlgVerif.nnGe_total
#print axioms LlgVerif.lang_bigRx
#print axioms LlgVerif.c08_lexi_x_to_9
#print axioms LlgVerif.c08_lexi_0_to_x
#print axioms LlgVerif.c08_lexi_range
#print axioms LlgVerif.fracLE_iff_scaled
#print axioms LlgVerif.fracLT_iff_scaled
#print axioms LlgVerif.c08_float_pos
#print axioms LlgVerif.c08_float_neg
#print axioms LlgVerif.c08_float_mixed
#print axioms LlgVerif.c08_float_ge
#print axioms LlgVerif.c08_float_le
#print axioms LlgVerif.c08_emptiness
#print axioms LlgVerif.hasPoint_iff
#print axioms LlgVerif.c08_float_ge_neg
#print axioms LlgVerif.c08_float_le_neg
#print axioms LlgVerif.c08_float_le_zero
