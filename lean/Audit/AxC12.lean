import LlgVerif.Props.C12
#print axioms LlgVerif.rollback_commits
#print axioms LlgVerif.rollback_bounds
#print axioms LlgVerif.tokenLen_eq_decodeRaw_length
