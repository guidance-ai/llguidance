import LlgVerif.Props.C05
import LlgVerif.Props.C05Bytes
#print axioms LlgVerif.Cfg.spec_accepts
#print axioms LlgVerif.Cfg.spec_viable
#print axioms LlgVerif.Cfg.token_allowed_cfg
#print axioms LlgVerif.Cfg.chart_correct
#print axioms LlgVerif.Cfg.chart_sound
#print axioms LlgVerif.Cfg.preG_prefix
#print axioms LlgVerif.Cfg.preG_same
#print axioms LlgVerif.Cfg.allProductive_spec
#print axioms LlgVerif.c05_earley_rows_sound
#print axioms LlgVerif.c05_earley_accept_sound
#print axioms LlgVerif.c05_earley_rows_complete
#print axioms LlgVerif.c05_earley_accept_iff
#print axioms LlgVerif.c05_earley_accept_iff_pure
#print axioms LlgVerif.Ey.closed_complete
#print axioms LlgVerif.Ey.advance
#print axioms LlgVerif.Ey.der_null
#print axioms LlgVerif.c05_earley_rows_exact
#print axioms LlgVerif.c05_earley_rows_viable
#print axioms LlgVerif.c05_earley_allowed_lexeme_viable
#print axioms LlgVerif.c05_earley_lexeme_mask_exact
#print axioms LlgVerif.c05_bytes_sound
#print axioms LlgVerif.c05_lexer_state_viable
#print axioms LlgVerif.c05_bytes_prefix_viable
