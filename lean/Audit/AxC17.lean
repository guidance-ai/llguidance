import LlgVerif.Props.C17
#print axioms LlgVerif.parCopy_in_bounds
#print axioms LlgVerif.parCopy_none
#print axioms LlgVerif.computeMaskInto_exact_size
