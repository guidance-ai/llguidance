import LlgVerif.Props.C15
#print axioms LlgVerif.Cfg.inline_preserves
#print axioms LlgVerif.Cfg.inline_keeps_protected
#print axioms LlgVerif.Cfg.inline_sound
#print axioms LlgVerif.Cfg.inline_complete
#print axioms LlgVerif.Cfg.expand_ok
#print axioms LlgVerif.Cfg.DL_split
