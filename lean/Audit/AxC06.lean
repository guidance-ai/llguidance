import LlgVerif.Props.C06
import LlgVerif.Props.C06Intersect
#print axioms LlgVerif.Js.le_at
#print axioms LlgVerif.Js.le_refl
#print axioms LlgVerif.Js.le_total
#print axioms LlgVerif.Js.le_trans
#print axioms LlgVerif.Js.lt_iff_le_not_eq
#print axioms LlgVerif.Js.le_congr_left
#print axioms LlgVerif.Js.le_congr_right
#print axioms LlgVerif.Js.lt_congr_left
#print axioms LlgVerif.Js.lt_congr_right
#print axioms LlgVerif.Js.validate_allOf
#print axioms LlgVerif.Js.validate_anyOf
#print axioms LlgVerif.Js.validate_oneOf
#print axioms LlgVerif.Js.validate_bounds
#print axioms LlgVerif.Js.validate_bounds_spelling
#print axioms LlgVerif.c06_intersect_sat
#print axioms LlgVerif.c06_normalize_sat
#print axioms LlgVerif.c06_lcm_multiples
#print axioms LlgVerif.c06_disjoint_sound
#print axioms LlgVerif.c06_oneof_disjoint_is_anyof
