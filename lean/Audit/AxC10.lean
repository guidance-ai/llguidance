import LlgVerif.Props.C10
#print axioms LlgVerif.slice_sound
#print axioms LlgVerif.apply_covers
#print axioms LlgVerif.c10_containment_decided
#print axioms LlgVerif.c10_matched_slice_tokens_accepted
