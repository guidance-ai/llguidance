import LlgVerif.Props.C02
#print axioms LlgVerif.commit_factors_through_bytes
#print axioms LlgVerif.split_independent
#print axioms LlgVerif.token_allowed_iff_bytes_allowed
#print axioms LlgVerif.runBytes_append
