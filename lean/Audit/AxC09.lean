import LlgVerif.Props.C09
#print axioms LlgVerif.repeat_counts
#print axioms LlgVerif.repeatExact_counts
#print axioms LlgVerif.atMost_counts
#print axioms LlgVerif.regex_repeat_counts
#print axioms LlgVerif.counts_star_unit
