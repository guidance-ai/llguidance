import LlgVerif.Props.C01
import LlgVerif.Props.C01Bytes
#print axioms LlgVerif.mask_eq_commit
#print axioms LlgVerif.eos_iff_accepting
#print axioms LlgVerif.validate_longest_prefix
#print axioms LlgVerif.walk_eq_filter
#print axioms LlgVerif.c01_m5_mask_eq_commit
#print axioms LlgVerif.c01_m5_generation_sound
