import LlgVerif.Props.C14
#print axioms LlgVerif.memo_schedule_independent
#print axioms LlgVerif.table_append_only
#print axioms LlgVerif.intern_spec
