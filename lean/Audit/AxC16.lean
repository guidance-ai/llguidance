import LlgVerif.Props.C16
#print axioms LlgVerif.walk_eq_filter
#print axioms LlgVerif.no_id_ge_vocab
#print axioms LlgVerif.walk_restores_stack
#print axioms LlgVerif.flat_wf
#print axioms LlgVerif.token_roundtrip
#print axioms LlgVerif.svob_ops_refine_sets
#print axioms LlgVerif.excess_bits_clear
