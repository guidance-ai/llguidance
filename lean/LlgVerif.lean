-- every module of the development is reachable from a property module
import LlgVerif.Props.C01
import LlgVerif.Props.C01Bytes
import LlgVerif.Props.C02
import LlgVerif.Props.C03
import LlgVerif.Props.C04
import LlgVerif.Props.C05
import LlgVerif.Props.C05Bytes
import LlgVerif.Props.C06
import LlgVerif.Props.C06Intersect
import LlgVerif.Props.C08
import LlgVerif.Props.C09
import LlgVerif.Props.C10
import LlgVerif.Props.C11
import LlgVerif.Props.C12
import LlgVerif.Props.C13
import LlgVerif.Props.C14
import LlgVerif.Props.C15
import LlgVerif.Props.C16
import LlgVerif.Props.C17
import LlgVerif.Props.C18
import LlgVerif.Props.C19
import LlgVerif.Props.C20
