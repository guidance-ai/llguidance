/- A pair set accepted by `Dfa.containCheck` (Spec/Contain.lean) proves the containment it certifies. -/
import LlgVerif.Spec.Contain
import LlgVerif.Proofs.RegexDfa
namespace LlgVerif
namespace Dfa
open Rx

theorem containCheck_iff {ds db : Dfa} {q0 : Nat} {pairs : List (Nat × Nat)} :
    containCheck ds db q0 pairs = true ↔ (0, q0) ∈ pairs ∧ ∀ p q, (p, q) ∈ pairs →
      (ds.acc[p]! = true → db.live[q]! = true) ∧
      ∀ b : B, ds.live[next ds p b]! = true → (next ds p b, next db q b) ∈ pairs := by
  simp only [containCheck, Bool.and_eq_true, List.all_eq_true, Bool.or_eq_true, Bool.not_eq_eq_eq_not,
    Bool.not_true, List.contains_iff_mem, Prod.forall]
  refine and_congr_right fun _ => forall₂_congr fun p q => imp_congr_right fun _ => and_congr ?_
    ⟨fun h b hl => ?_, fun h b _ => ?_⟩
  · cases ds.acc[p]! <;> simp
  · simpa [hl] using h b (mem_allBytes b)
  · cases hl : ds.live[next ds p b]! <;> simp [h b, hl]

/-- the pairs follow both automata along any string that the small one still completes to a match -/
theorem contain_follows {rs : Rx} {ds db : Dfa} (gs : Good rs ds) {q0 : Nat} {pairs : List (Nat × Nat)}
    (h : containCheck ds db q0 pairs = true) (w : List B) :
    ∀ p q, (p, q) ∈ pairs → p < ds.states.size → ds.acc[run ds p w]! = true → db.live[run db q w]! = true := by
  have hall := (containCheck_iff.mp h).2
  induction w with
  | nil => intro p q hm _ hacc; exact (hall p q hm).1 hacc
  | cons b w ih =>
    intro p q hm hp hacc
    simp only [run] at hacc ⊢
    have hp' := (gs.step_ok p hp b).1
    exact ih _ _ ((hall p q hm).2 b ((gs.live_iff hp').mpr ⟨w, hacc⟩)) hp' hacc

theorem contain_live {rs : Rx} {ds db : Dfa} (hs : check rs ds = true) {q : Nat} {pairs : List (Nat × Nat)}
    (h : containCheck ds db q pairs = true) {w : List B} (hw : lang rs w) : db.live[run db q w]! = true := by
  have gs := good_of_check hs
  exact contain_follows gs h w 0 q (containCheck_iff.mp h).1 gs.pos ((gs.acc_run gs.pos w).mpr (gs.init ▸ hw))

end Dfa
end LlgVerif
