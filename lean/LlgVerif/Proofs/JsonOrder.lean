/-
The decimal order of S5: read at any common exponent below both numbers, `Num.le`, `Num.lt`, `Num.eq`
are `≤`, `<`, `=` on integers (`cmp_at`); every order fact is proved there.
-/
import LlgVerif.Spec.Json
namespace LlgVerif
namespace Js

/-- the number as an integer in units of `10^e`, for `e` not above its own exponent -/
def Num.sc (a : Num) (e : Int) : Int := a.signed * (10 : Int) ^ (a.exp - e).toNat

theorem pow10_pos (k : Nat) : (0 : Int) < (10 : Int) ^ k := Int.pow_pos (by decide)

theorem sc_lower (a : Num) (e e' : Int) (h1 : e ≤ a.exp) (h2 : e' ≤ e) :
    a.sc e' = a.sc e * (10 : Int) ^ (e - e').toNat := by
  unfold Num.sc
  have : (a.exp - e').toNat = (a.exp - e).toNat + (e - e').toNat := by omega
  rw [this, Int.pow_add, Int.mul_assoc]

theorem align_eq (a b : Num) : Num.align a b = (a.sc (min a.exp b.exp), b.sc (min a.exp b.exp)) := rfl

/-- going from the exponent `align` chooses down to `e` multiplies both sides by the same positive
power of ten -/
theorem cmp_at (a b : Num) (e : Int) (ha : e ≤ a.exp) (hb : e ≤ b.exp) :
    (Num.le a b = true ↔ a.sc e ≤ b.sc e) ∧ (Num.lt a b = true ↔ a.sc e < b.sc e) ∧
    (Num.eq a b = true ↔ a.sc e = b.sc e) := by
  have hm : e ≤ min a.exp b.exp := by omega
  have hp := pow10_pos (min a.exp b.exp - e).toNat
  simp only [Num.le, Num.lt, Num.eq, align_eq,
    sc_lower a _ e (Int.min_le_left ..) hm, sc_lower b _ e (Int.min_le_right ..) hm,
    Int.mul_le_mul_right hp, Int.mul_lt_mul_right hp, Int.mul_eq_mul_right_iff (Int.ne_of_gt hp)]
  exact ⟨decide_eq_true_iff, decide_eq_true_iff, decide_eq_true_iff⟩

theorem le_at (a b : Num) (e : Int) (ha : e ≤ a.exp) (hb : e ≤ b.exp) : Num.le a b = true ↔ a.sc e ≤ b.sc e :=
  (cmp_at a b e ha hb).1
theorem lt_at (a b : Num) (e : Int) (ha : e ≤ a.exp) (hb : e ≤ b.exp) : Num.lt a b = true ↔ a.sc e < b.sc e :=
  (cmp_at a b e ha hb).2.1
theorem eq_at (a b : Num) (e : Int) (ha : e ≤ a.exp) (hb : e ≤ b.exp) : Num.eq a b = true ↔ a.sc e = b.sc e :=
  (cmp_at a b e ha hb).2.2

theorem common_exp (a b c : Num) : ∃ e, e ≤ a.exp ∧ e ≤ b.exp ∧ e ≤ c.exp :=
  ⟨min a.exp (min b.exp c.exp), by omega, by omega, by omega⟩

theorem le_refl (a : Num) : Num.le a a = true := (le_at a a a.exp (Int.le_refl _) (Int.le_refl _)).mpr (Int.le_refl _)

theorem le_total (a b : Num) : Num.le a b = true ∨ Num.le b a = true := by
  obtain ⟨e, ha, hb, -⟩ := common_exp a b b
  simp only [le_at _ _ e, ha, hb]
  omega

theorem le_trans (a b c : Num) (h1 : Num.le a b = true) (h2 : Num.le b c = true) : Num.le a c = true := by
  obtain ⟨e, ha, hb, hc⟩ := common_exp a b c
  simp only [le_at _ _ e, ha, hb, hc] at h1 h2 ⊢
  omega

theorem lt_of_le_of_lt (a b c : Num) (h1 : Num.le a b = true) (h2 : Num.lt b c = true) : Num.lt a c = true := by
  obtain ⟨e, ha, hb, hc⟩ := common_exp a b c
  simp only [le_at _ _ e, lt_at _ _ e, ha, hb, hc] at h1 h2 ⊢
  omega

theorem lt_of_lt_of_le (a b c : Num) (h1 : Num.lt a b = true) (h2 : Num.le b c = true) : Num.lt a c = true := by
  obtain ⟨e, ha, hb, hc⟩ := common_exp a b c
  simp only [le_at _ _ e, lt_at _ _ e, ha, hb, hc] at h1 h2 ⊢
  omega

theorem lt_iff_le_not_eq (a b : Num) : Num.lt a b = true ↔ Num.le a b = true ∧ Num.eq a b = false := by
  obtain ⟨e, ha, hb, -⟩ := common_exp a b b
  simp only [← Bool.not_eq_true, le_at _ _ e, lt_at _ _ e, eq_at _ _ e, ha, hb]
  omega

theorem le_congr_left (a a' b : Num) (h : Num.eq a a' = true) : Num.le a b = Num.le a' b := by
  obtain ⟨e, ha, ha', hb⟩ := common_exp a a' b
  simp only [Bool.eq_iff_iff, le_at _ _ e, eq_at _ _ e, ha, ha', hb] at h ⊢
  omega

theorem le_congr_right (a a' b : Num) (h : Num.eq a a' = true) : Num.le b a = Num.le b a' := by
  obtain ⟨e, ha, ha', hb⟩ := common_exp a a' b
  simp only [Bool.eq_iff_iff, le_at _ _ e, eq_at _ _ e, ha, ha', hb] at h ⊢
  omega

theorem lt_congr_left (a a' b : Num) (h : Num.eq a a' = true) : Num.lt a b = Num.lt a' b := by
  obtain ⟨e, ha, ha', hb⟩ := common_exp a a' b
  simp only [Bool.eq_iff_iff, lt_at _ _ e, eq_at _ _ e, ha, ha', hb] at h ⊢
  omega

theorem lt_congr_right (a a' b : Num) (h : Num.eq a a' = true) : Num.lt b a = Num.lt b a' := by
  obtain ⟨e, ha, ha', hb⟩ := common_exp a a' b
  simp only [Bool.eq_iff_iff, lt_at _ _ e, eq_at _ _ e, ha, ha', hb] at h ⊢
  omega

end Js
end LlgVerif
