/-
The `oneOf`-free fragment `Ok` of the schema IR, the statement proved of `intersect` on it (`Meet`, `Good`),
and what several arms of that proof share: the tighter of two optional bounds, the kind of a value,
lists of nodes (options, tuple prefixes), `normalize`.
-/
import LlgVerif.Model.Schema
import LlgVerif.Proofs.JsonOrder
import LlgVerif.Proofs.ListFacts
namespace LlgVerif
namespace Sch
open Js

variable {ρ : String → String → Bool} {isMult : Dec → Num → Bool}

/-- what `optMaxN`, `optMinN`, `optMinNat` have in common: the one bound there is, or the tighter of two -/
def optPick {α : Type} (c : α → α → Prop) [DecidableRel c] : Option α → Option α → Option α
  | some x, some y => if c x y then some x else some y
  | some x, none => some x
  | none, some y => some y
  | none, none => none

theorem optMaxN_eq (a b : Option Num) : optMaxN a b = optPick (fun x y => y.le x = true) a b := by
  cases a <;> cases b <;> rfl
theorem optMinN_eq (a b : Option Num) : optMinN a b = optPick (fun x y => x.le y = true) a b := by
  cases a <;> cases b <;> rfl
theorem optMinNat_eq (a b : Option Nat) : optMinNat a b = optPick (· ≤ ·) a b := by
  cases a <;> cases b <;> rfl

theorem optAll_optPick {α : Type} {c : α → α → Prop} [DecidableRel c] {p : α → Bool} (tot : ∀ x y, c x y ∨ c y x)
    (mono : ∀ x y, c x y → p x = true → p y = true) (a b : Option α) :
    optAll (optPick c a b) p = (optAll a p && optAll b p) := by
  cases a <;> cases b <;> simp only [optPick, optAll, Bool.and_true, Bool.true_and]
  rename_i x y
  by_cases h : c x y
  · rw [if_pos h]
    exact Bool.eq_self_and.mpr (mono x y h)
  · rw [if_neg h]
    exact Bool.eq_and_self.mpr (mono y x ((tot x y).resolve_left h))

theorem optMinNat_le (a b : Option Nat) (n : Nat) :
    optAll (optMinNat a b) (fun h => decide (n ≤ h)) = (optAll a (fun h => decide (n ≤ h)) && optAll b (fun h => decide (n ≤ h))) :=
  optMinNat_eq a b ▸ optAll_optPick Nat.le_total (fun _ _ h hx => decide_eq_true (Nat.le_trans (of_decide_eq_true hx) h)) a b

theorem decide_max_le (a b n : Nat) : decide (max a b ≤ n) = (decide (a ≤ n) && decide (b ≤ n)) := by
  simp only [Nat.max_le, Bool.decide_and]

/-! The fragment: no `oneOf`, `required` without repetition, an absent `items` / `additionalProperties` stored as `any`. -/

def isAny : Sch → Bool
  | .any => true
  | _ => false

def nodupB : List String → Bool
  | [] => true
  | x :: xs => !xs.contains x && nodupB xs

mutual
def Ok : Sch → Bool
  | .oneOf _ => false
  | .anyOf l => OkL l
  | .array _ _ pre none_ items => OkL pre && Ok items && (!none_ || isAny items)
  | .object props none_ ap req _ _ => OkKL props && Ok ap && (!none_ || isAny ap) && nodupB req
  | _ => true
def OkL : SchL → Bool
  | .nil => true
  | .cons h t => Ok h && OkL t
def OkKL : SchKL → Bool
  | .nil => true
  | .cons _ s t => Ok s && OkKL t
end

theorem ok_array_iff {lo : Nat} {hi : Option Nat} {pre : SchL} {n : Bool} {items : Sch} :
    Ok (.array lo hi pre n items) = true ↔ OkL pre = true ∧ Ok items = true ∧ (!n || isAny items) = true := by
  simp only [Ok, Bool.and_eq_true, and_assoc]

theorem ok_object_iff {props : SchKL} {n : Bool} {ap : Sch} {req : List String} {lo : Nat} {hi : Option Nat} :
    Ok (.object props n ap req lo hi) = true ↔
      OkKL props = true ∧ Ok ap = true ∧ (!n || isAny ap) = true ∧ nodupB req = true := by
  simp only [Ok, Bool.and_eq_true, and_assoc]

theorem isAny_sat {s : Sch} (h : isAny s = true) (v : Json) : sat ρ isMult s v = true := by
  cases s <;> first | rfl | exact Bool.noConfusion h

/-- the node kind whose instances a JSON value can be, as a `Sch.tag` -/
def kind : Json → Nat
  | .null => 2 | .bool _ => 3 | .num _ => 4 | .str _ => 5 | .arr _ => 6 | .obj _ => 9

/-- `null`, `boolean`, `number`, `string`, `array`, `object`: the nodes that describe values of one kind -/
def Sch.basic : Sch → Bool
  | .any | .unsat | .anyOf _ | .oneOf _ => false
  | _ => true

theorem sat_kind {s : Sch} {v : Json} (hs : s.basic = true) (h : sat ρ isMult s v = true) : s.tag = kind v := by
  cases s <;> first | exact Bool.noConfusion hs | (cases v <;> first | rfl | exact Bool.noConfusion h)

/-- why `disjoint` may answer `a.tag != b.tag`, and `intersect` `unsat`, for two basic nodes -/
theorem tag_ne_sat {a b : Sch} (hab : (a.tag != b.tag) = true) (ha : a.basic = true) (hb : b.basic = true) (v : Json)
    (h1 : sat ρ isMult a v = true) (h2 : sat ρ isMult b v = true) : False :=
  bne_iff_ne.mp hab ((sat_kind ha h1).trans (sat_kind hb h2).symm)

theorem satAny_append (v : Json) : ∀ (a b : SchL), satAny ρ isMult (a.append b) v = (satAny ρ isMult a v || satAny ρ isMult b v)
  | .nil, b => rfl
  | .cons h t, b => by simp only [SchL.append, satAny, satAny_append v t b, Bool.or_assoc]

theorem OkL_append : ∀ (a b : SchL), OkL (a.append b) = (OkL a && OkL b)
  | .nil, b => rfl
  | .cons h t, b => by simp only [SchL.append, OkL, OkL_append t b, Bool.and_assoc]

theorem satAny_snoc (v : Json) (a : SchL) (x : Sch) :
    satAny ρ isMult (a.snoc x) v = (satAny ρ isMult a v || sat ρ isMult x v) := by
  simp only [SchL.snoc, satAny_append, satAny, Bool.or_false]

theorem OkL_snoc (a : SchL) (x : Sch) : OkL (a.snoc x) = (OkL a && Ok x) := by
  simp only [SchL.snoc, OkL_append, OkL, Bool.and_true]

theorem len_append : ∀ (a b : SchL), (a.append b).len = a.len + b.len
  | .nil, b => (Nat.zero_add _).symm
  | .cons h t, b => by simp only [SchL.append, SchL.len, len_append t b]; omega

theorem rep_len (x : Sch) : ∀ n, (SchL.rep x n).len = n
  | 0 => rfl
  | n + 1 => congrArg (· + 1) (rep_len x n)

theorem pad_len (n : Nat) (l : SchL) (x : Sch) : (l.pad x n).len = l.len + n := by
  rw [SchL.pad, len_append, rep_len]

theorem OkL_rep (x : Sch) (hx : Ok x = true) : ∀ n, OkL (SchL.rep x n) = true
  | 0 => rfl
  | n + 1 => by simp only [SchL.rep, OkL, hx, OkL_rep x hx n, Bool.and_self]

theorem OkL_pad (n : Nat) (l : SchL) (x : Sch) (h : OkL l = true) (hx : Ok x = true) : OkL (l.pad x n) = true := by
  rw [SchL.pad, OkL_append, h, OkL_rep x hx n]
  rfl

theorem satPre_rep (x : Sch) : ∀ (n : Nat) (xs : List Json),
    satPre ρ isMult (sat ρ isMult x) (SchL.rep x n) xs = xs.all (sat ρ isMult x)
  | 0, xs => rfl
  | n + 1, [] => rfl
  | n + 1, y :: ys => by simp only [SchL.rep, satPre, List.all_cons, satPre_rep x n ys]

theorem satPre_pad (x : Sch) (n : Nat) : ∀ (l : SchL) (xs : List Json),
    satPre ρ isMult (sat ρ isMult x) (l.pad x n) xs = satPre ρ isMult (sat ρ isMult x) l xs
  | .nil, xs => satPre_rep x n xs
  | .cons a t, [] => rfl
  | .cons a t, y :: ys => by
      have := satPre_pad x n t ys
      simp only [SchL.pad, SchL.append, satPre] at this ⊢
      rw [this]

/-- `c` lies in the fragment and means `a` and `b` -/
structure Meet (ρ : String → String → Bool) (isMult : Dec → Num → Bool) (a b c : Sch) : Prop where
  ok : Ok c = true
  sat_eq : ∀ v, sat ρ isMult c v = (sat ρ isMult a v && sat ρ isMult b v)

/-- the statement proved for `intersect` at one recursion budget: at one pair of operands, and at all -/
def GoodAt (ρ : String → String → Bool) (isMult : Dec → Num → Bool) (g : Sch → Sch → Option Sch) (a b : Sch) : Prop :=
  ∀ ⦃c⦄, g a b = some c → Ok a = true → Ok b = true → Meet ρ isMult a b c

def Good (ρ : String → String → Bool) (isMult : Dec → Num → Bool) (g : Sch → Sch → Option Sch) : Prop :=
  ∀ ⦃a b⦄, GoodAt ρ isMult g a b

theorem zipM_sat (g : Sch → Sch → Option Sch) (hg : Good ρ isMult g) (f1 f2 : Json → Bool) :
    ∀ (p q r : SchL), SchL.zipM g p q = some r → p.len = q.len → OkL p = true → OkL q = true →
      OkL r = true ∧ ∀ xs, satPre ρ isMult (fun v => f1 v && f2 v) r xs = (satPre ρ isMult f1 p xs && satPre ρ isMult f2 q xs)
  | .nil, .nil, r => by
      intro hz _ _ _
      cases hz
      exact ⟨rfl, all_and f1 f2⟩
  | .nil, .cons _ _, r => by intro _ hl; cases hl
  | .cons _ _, .nil, r => by intro _ hl; cases hl
  | .cons a as, .cons b bs, r => by
      intro hz hl hp hq
      simp only [SchL.zipM, Option.bind_eq_bind, Option.bind_eq_some_iff, Option.pure_def, Option.some.injEq] at hz
      obtain ⟨c, hc, t, ht, rfl⟩ := hz
      simp only [OkL, Bool.and_eq_true] at hp hq
      obtain ⟨hcok, hcs⟩ := hg hc hp.1 hq.1
      obtain ⟨htok, hts⟩ := zipM_sat g hg f1 f2 as bs t ht (Nat.succ.inj hl) hp.2 hq.2
      refine ⟨by simp only [OkL, hcok, htok, Bool.and_self], fun xs => ?_⟩
      cases xs with
      | nil => rfl
      | cons x xs =>
        simp only [satPre, hcs x, hts xs]
        ac_rfl

theorem mapM_sat (g : Sch → Option Sch) (b : Sch) (hg : ∀ o c, g o = some c → Ok o = true → Meet ρ isMult o b c) :
    ∀ (opts r : SchL), opts.mapM g = some r → OkL opts = true → Meet ρ isMult (.anyOf opts) b (.anyOf r)
  | .nil, r => by
      intro hm _
      cases hm
      exact ⟨rfl, fun v => rfl⟩
  | .cons a as, r => by
      intro hm ho
      simp only [SchL.mapM, Option.bind_eq_bind, Option.bind_eq_some_iff, Option.pure_def, Option.some.injEq] at hm
      obtain ⟨c, hc, t, ht, rfl⟩ := hm
      simp only [OkL, Bool.and_eq_true] at ho
      obtain ⟨hcok, hcs⟩ := hg a c hc ho.1
      obtain ⟨htok, hts⟩ := mapM_sat g b hg as t ht ho.2
      exact ⟨(Bool.and_eq_true ..).mpr ⟨hcok, htok⟩, fun v => by
        simp only [sat, satAny, hcs v] at hts ⊢
        rw [hts v, Bool.and_or_distrib_right]⟩

/-- `none`: some option is `any` -/
theorem normAnyLoop_none (v : Json) (l acc : SchL) (hn : normAnyLoop l acc = none) : satAny ρ isMult l v = true := by
  fun_induction normAnyLoop l acc <;> simp_all [satAny, sat]

/-- the loop invariant: `acc`, then the remaining options without `unsat` and with nested `anyOf`s flattened -/
theorem normAnyLoop_some (l acc r : SchL) (hn : normAnyLoop l acc = some r) (hl : OkL l = true) (ha : OkL acc = true) :
    OkL r = true ∧ ∀ v, satAny ρ isMult r v = (satAny ρ isMult acc v || satAny ρ isMult l v) := by
  fun_induction normAnyLoop l acc <;>
    simp_all [satAny, sat, OkL, Ok, OkL_append, OkL_snoc, satAny_append, satAny_snoc, Bool.or_assoc]

theorem normalize_sat (s : Sch) (hs : Ok s = true) :
    Ok (normalize s) = true ∧ ∀ v, sat ρ isMult (normalize s) v = sat ρ isMult s v := by
  cases s with
  | anyOf opts =>
    simp only [normalize]
    cases hn : normAnyLoop opts .nil with
    | none => exact ⟨rfl, fun v => (normAnyLoop_none v opts .nil hn).symm⟩
    | some valid =>
      obtain ⟨hok, hsat⟩ : OkL valid = true ∧ ∀ v, satAny ρ isMult valid v = satAny ρ isMult opts v :=
        normAnyLoop_some opts .nil valid hn hs rfl
      match valid, hok, hsat with
      | .nil, _, hsat => exact ⟨rfl, hsat⟩
      | .cons x .nil, hok, hsat =>
        exact ⟨(Bool.and_true _).symm.trans hok, fun v => (Bool.or_false _).symm.trans (hsat v)⟩
      | .cons x (.cons y rest), hok, hsat => exact ⟨hok, hsat⟩
  | oneOf l => exact Bool.noConfusion hs
  | _ => exact ⟨hs, fun _ => rfl⟩

end Sch
end LlgVerif
