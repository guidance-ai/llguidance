/-
`rx_float_range` for `0 ≤ left < right` (model `floatPos`): the pattern accepts exactly the plain
decimal literals `ip` or `ip.fd` whose value lies between the bounds.  Literals, with their sign,
are kept in the model's `FB`.
-/
import LlgVerif.Proofs.FracDigits
namespace LlgVerif
open Rx

/-- the bytes after the integer part: nothing, or `.` and at least one digit -/
def fracBytes (fd : List Nat) : List B := if fd.isEmpty then [] else 46 :: digB fd

/-- value order between a literal `(ip, fd)` and a bound `(bip, bfd)` -/
def geB (li : Bool) (ip : Nat) (fd : List Nat) (bip : Nat) (bfd : List Nat) : Prop :=
  bip < ip ∨ (bip = ip ∧ LowerB li bfd fd)
def leB (ri : Bool) (ip : Nat) (fd : List Nat) (bip : Nat) (bfd : List Nat) : Prop :=
  ip < bip ∨ (ip = bip ∧ UpperB ri fd bfd)

def LitLang (rx : Rx) (P : Nat → List Nat → Prop) : Prop :=
  ∀ w, lang rx w ↔ ∃ ip fd, AllDig fd ∧ w = dec ip ++ fracBytes fd ∧ P ip fd

def litB (x : FB) : List B := (if x.neg then [45] else []) ++ (dec x.ip ++ fracBytes x.fd)

def FB.Dig (x : FB) : Prop := AllDig x.fd

theorem fracBytes_nil : fracBytes [] = [] := rfl
theorem fracBytes_ne {fd : List Nat} (h : fd ≠ []) : fracBytes fd = 46 :: digB fd := by
  cases fd with
  | nil => exact absurd rfl h
  | cons _ _ => rfl

theorem litLang_iff {rx : Rx} {P : Nat → List Nat → Prop} :
    LitLang rx P ↔ Spells litB FB.Dig rx (fun x => x.neg = false ∧ P x.ip x.fd) := by
  refine forall_congr' fun w => iff_congr Iff.rfl ?_
  constructor
  · rintro ⟨ip, fd, hfd, hw, hp⟩; exact ⟨⟨false, ip, fd⟩, hfd, hw, rfl, hp⟩
  · rintro ⟨⟨_, ip, fd⟩, hfd, hw, rfl, hp⟩; exact ⟨ip, fd, hfd, hw, hp⟩

theorem Spells.lit_iff {rx : Rx} {S : FB → Prop} (h : Spells litB FB.Dig rx S) (w : List B) :
    lang rx w ↔
      (∃ ip fd, AllDig fd ∧ w = 45 :: (dec ip ++ fracBytes fd) ∧ S ⟨true, ip, fd⟩) ∨
      (∃ ip fd, AllDig fd ∧ w = dec ip ++ fracBytes fd ∧ S ⟨false, ip, fd⟩) := by
  rw [h w]
  constructor
  · rintro ⟨⟨_ | _, ip, fd⟩, hfd, hw, hs⟩
    · exact Or.inr ⟨ip, fd, hfd, hw, hs⟩
    · exact Or.inl ⟨ip, fd, hfd, hw, hs⟩
  · rintro (⟨ip, fd, hfd, hw, hs⟩ | ⟨ip, fd, hfd, hw, hs⟩)
    · exact ⟨⟨true, ip, fd⟩, hfd, hw, hs⟩
    · exact ⟨⟨false, ip, fd⟩, hfd, hw, hs⟩

theorem Spells.negLit {rx : Rx} {S : FB → Prop} (h : Spells litB FB.Dig rx S)
    (hs : ∀ x, S x → x.neg = false) :
    Spells litB FB.Dig (cat minus rx) (fun x => x.neg = true ∧ S x.negate) :=
  h.neg.image FB.negate
    (fun ⟨n, ip, fd⟩ hd hx => by obtain rfl : n = false := hs _ hx; exact ⟨hd, rfl, rfl, hx⟩)
    fun y hd hy => ⟨y.negate, hd, hy.2, by cases y; simp [FB.negate]⟩

theorem spells_lit {I F : Rx} {Q : Nat → Prop} {PF : List Nat → Prop}
    (hI : Spells dec (fun _ => True) I Q) (hF : Spells fracBytes AllDig F PF) :
    Spells litB FB.Dig (cat I F) (fun x => x.neg = false ∧ Q x.ip ∧ PF x.fd) :=
  (hI.seq hF).image (fun x => ⟨false, x.1, x.2⟩) (fun _ hd hx => ⟨hd.2, rfl, rfl, hx⟩)
    fun ⟨_, ip, fd⟩ hd hy => ⟨(ip, fd), ⟨trivial, hd⟩, hy.2, by rw [← hy.1]⟩

theorem spells_dot {X : Rx} {PX : List Nat → Prop} (hX : Spells digB AllDig X PX) (hnil : ¬ PX []) :
    Spells fracBytes AllDig (cat dotRx X) PX := fun w => by
  rw [show lang (cat dotRx X) w ↔ _ from lang_byte_cat 46 X w]
  have hne : ∀ fd, PX fd → fd ≠ [] := fun fd hp e => hnil (e ▸ hp)
  constructor
  · rintro ⟨v, hw, hv⟩
    obtain ⟨fd, hfd, rfl, hp⟩ := (hX v).mp hv
    exact ⟨fd, hfd, by rw [hw, fracBytes_ne (hne fd hp)], hp⟩
  · rintro ⟨fd, hfd, hw, hp⟩
    exact ⟨_, by rw [hw, fracBytes_ne (hne fd hp)], (hX _).mpr ⟨fd, hfd, rfl, hp⟩⟩

theorem spells_optFracAny : Spells fracBytes AllDig optFracAny (fun _ => True) :=
  spells_opt fracBytes_nil (spells_dot (spells_hd_iff 0 9 (Nat.le_refl 9) spells_digStar (Q := fun d => d ≠ [] ∧ True)
    (fun h => h.1 rfl) fun k t hk => by simp [hk]) fun h => h.1 rfl) trivial

theorem spells_dotZeros : Spells fracBytes AllDig dotZeros AllZero :=
  spells_opt fracBytes_nil (spells_dot (spells_hd_iff 0 0 (Nat.zero_le 9) spells_zeroStar
    (Q := fun d => d ≠ [] ∧ AllZero d) (fun h => h.1 rfl) fun k t _ => by simp [allZero_cons]) fun h => h.1 rfl)
    allZero_nil

theorem allZero_replicate (n : Nat) : AllZero (List.replicate n 0) :=
  fun _ ha => (List.mem_replicate.mp ha).2

theorem allDig_padTo (x : List Nat) (n : Nat) (h : AllDig x) : AllDig (padTo x n) :=
  allDig_append.mpr ⟨h, fun a ha => by rw [allZero_replicate _ a ha]; omega⟩

theorem lowerB_pad_left (i : Bool) (x d : List Nat) (n : Nat) : LowerB i (padTo x n) d ↔ LowerB i x d :=
  lowerB_append_zeros_left i x _ d (allZero_replicate _)

theorem lowerB_pad_right (i : Bool) (d x : List Nat) (n : Nat) : LowerB i d (padTo x n) ↔ LowerB i d x :=
  lowerB_append_zeros_right i d x _ (allZero_replicate _)

theorem all_zero_iff (x : List Nat) : x.all (· == 0) = true ↔ AllZero x := by
  simp [AllZero, List.all_eq_true]

theorem allZero_pad (x : List Nat) (n : Nat) : AllZero (padTo x n) ↔ AllZero x :=
  allZero_append.trans (and_iff_left (allZero_replicate _))

theorem padTo_length (x : List Nat) (n : Nat) (h : x.length ≤ n) : (padTo x n).length = n := by
  unfold padTo; simp; omega

/-- the same integer part: that integer, then a fraction from `lexi_range` on the padded fractions -/
theorem floatPos_same {l r : FB} {li ri : Bool} {p : PR} (h : floatPos l r li ri = .ok p)
    (hl : AllDig l.fd) (hr : AllDig r.fd) (hip : l.ip = r.ip) (hfl : fracLT l.fd r.fd) :
    Spells litB FB.Dig p.rx
      (fun x => x.neg = false ∧ geB li x.ip x.fd l.ip l.fd ∧ leB ri x.ip x.fd r.ip r.fd) := by
  unfold floatPos at h
  rw [if_pos hip] at h
  simp only at h
  -- nothing below depends on the length the fractions are padded to
  generalize max l.fd.length r.fd.length = n at h
  split at h
  · cases h
  · rename_i s hs
    have hnm : padTo l.fd n ≠ padTo r.fd n := fun e => by
      have h1 : LowerB false (padTo l.fd n) (padTo r.fd n) := by rwa [lowerB_pad_left, lowerB_pad_right]
      exact lowerB_irrefl (padTo r.fd n) (e ▸ h1)
    have hX := (lexiRange_lang hs hnm (allDig_padTo _ _ hl) (allDig_padTo _ _ hr)).congr
      fun d _ => by rw [lowerB_pad_left, lowerB_pad_right]
    -- the fraction is optional exactly when the bare integer is inside the bounds
    have hF := spells_opt_ite fracBytes_nil (spells_dot hX fun h => h.1 rfl) (li && (padTo l.fd n).all (· == 0)) (by
      rw [Bool.and_eq_true, all_zero_iff, allZero_pad, lowerB_nil_between li ri fun hz =>
        ((lowerB_zeros_left false l.fd r.fd hz).mp hfl).resolve_left (by simp)])
    split at h
    all_goals
      rename_i hopt
      injection h with h; subst h
      simp only [hopt, ↓reduceIte] at hF
      exact (spells_lit (spells_litDec l.ip) hF).congr fun x _ => and_congr_right fun _ => by
        rw [geB, leB, upperB_eq, ← hip, lex_between_same]

/-- different integer parts: the integer part of `left` with a larger fraction, the integers strictly
between with any fraction, the integer part of `right` with a smaller fraction -/
theorem floatPos_diff {l r : FB} {li ri : Bool} {p : PR} (h : floatPos l r li ri = .ok p)
    (hl : AllDig l.fd) (hln : NTZ l.fd) (hr : AllDig r.fd) (hrn : NTZ r.fd) (hlt' : l.ip < r.ip) :
    Spells litB FB.Dig p.rx
      (fun x => x.neg = false ∧ geB li x.ip x.fd l.ip l.fd ∧ leB ri x.ip x.fd r.ip r.fd) := by
  unfold floatPos at h
  rw [if_neg (Nat.ne_of_lt hlt')] at h
  simp only at h
  split at h
  · rename_i m la hm hla
    injection h with h; subst h
    -- the model's Boolean test, as the proposition the `alts_ite` below is stated with
    have hc : (!l.fd.isEmpty || !li) = true ↔ ¬ (l.fd = [] ∧ li = true) := by
      cases l.fd <;> cases li <;> simp
    simp only [apply_ite Prod.snd, apply_ite Prod.fst, hc, List.map_append,
      apply_ite (List.map _), List.map_cons, List.map_nil] at hm ⊢
    generalize hL : (if ¬ (l.fd = [] ∧ li = true) then l.ip + 1 else l.ip) = leftRec at hm
    -- first part: the integer part of `left` with a fraction at or above its fraction;
    -- left out when `left` is an inclusive integer, whose literals the middle part then covers
    have hfirst := Spells.alts_ite (¬ (l.fd = [] ∧ li = true)) fun hc' =>
      Spells.alts_one (spells_lit (spells_litDec l.ip) (spells_dot (lexiXTo9_lang l.fd li hl hln)
        fun h => by
          obtain ⟨h1, h2⟩ := (lowerB_nil_right li l.fd).mp h
          exact hc' ⟨Classical.byContradiction fun hne => ntz_not_allZero _ hne hln h2, h1⟩))
    have hmid : Spells litB FB.Dig (altsRx (m.map (·.rx)))
        (fun x => x.neg = false ∧ leftRec ≤ x.ip ∧ x.ip < r.ip) := by
      split at hm
      · split at hm
        · rename_i i hi
          injection hm with hm; subst hm
          exact (Spells.alts_one (spells_lit (nnRange_correct hi) spells_optFracAny)).congr
            fun x _ => and_congr_right fun _ => by simp only [and_true]; omega
        · cases hm
      · injection hm with hm; subst hm
        exact Spells.alts_nil.congr fun x _ => iff_of_false id fun h => by omega
    -- last part: the integer part of `right` with nothing or a fraction at or below its fraction
    have hlast : Spells litB FB.Dig (altsRx (la.map (·.rx)))
        (fun x => x.neg = false ∧ x.ip = r.ip ∧ LowerB ri x.fd r.fd) := by
      split at hla
      · rename_i hne
        have hne' : r.fd ≠ [] := fun e => by simp [e] at hne
        split at hla
        · rename_i x hx
          injection hla with hla; subst hla
          exact Spells.alts_one (spells_lit (spells_litDec r.ip) (spells_opt fracBytes_nil
            (spells_dot (lexi0ToX_lang hx hr hrn) fun h => h.1 rfl) (lowerB_nil_ntz ri hne' hrn)))
        · cases hla
      · rename_i he
        obtain he' : r.fd = [] := by simpa using he
        simp only [he', lowerB_nil_right]
        split at hla
        · rename_i hri
          injection hla with hla; subst hla
          exact (Spells.alts_one (spells_lit (spells_litDec r.ip) spells_dotZeros)).congr
            fun x _ => by simp only [eq_true hri, true_and]
        · rename_i hri
          injection hla with hla; subst hla
          exact Spells.alts_nil.congr fun x _ => by simp only [eq_false hri, false_and, and_false]
    refine ((hfirst.alts_append hmid).alts_append hlast).congr fun x _ => ?_
    rcases x with ⟨_ | _, ip, fd⟩
    · simp only [true_and, geB, leB, upperB_eq, lex_between_diff ip hlt']
      rw [← or_assoc]
      refine or_congr_left ?_
      by_cases hc' : ¬ (l.fd = [] ∧ li = true)
      · simp only [← hL, hc', not_false_eq_true, true_and, if_true]
        exact Iff.rfl
      · -- an inclusive integer bound: every literal with that integer part is inside
        have hlow : LowerB li l.fd fd := by
          obtain ⟨h1, h2⟩ := Classical.not_not.mp hc'
          rw [h1, h2]; trivial
        simp only [← hL, hc', false_and, false_or, if_false, hlow, and_true]
        omega
    · -- a literal with `-`: in no part
      simp
  · cases h

theorem floatPos_lang {l r : FB} {li ri : Bool} {p : PR} (h : floatPos l r li ri = .ok p)
    (hl : AllDig l.fd) (hln : NTZ l.fd) (hr : AllDig r.fd) (hrn : NTZ r.fd)
    (hlt : l.ip < r.ip ∨ (l.ip = r.ip ∧ fracLT l.fd r.fd)) :
    Spells litB FB.Dig p.rx
      (fun x => x.neg = false ∧ geB li x.ip x.fd l.ip l.fd ∧ leB ri x.ip x.fd r.ip r.fd) := by
  rcases hlt with hlt | ⟨hip, hfl⟩
  · exact floatPos_diff h hl hln hr hrn hlt
  · exact floatPos_same h hl hr hip hfl

end LlgVerif
