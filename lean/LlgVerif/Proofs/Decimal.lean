/-
Decimal spellings (`dec`, `numDigits`), the languages of the pattern fragments of `rx_int_range`,
and digit strings (`AllDig`, `digB`): a first digit, `[lo-hi]*`, `[0-9]{n,}`.
-/
import LlgVerif.Proofs.Spells
namespace LlgVerif
open Rx

theorem digitB_toNat (k : Nat) (h : k ≤ 9) : (digitB k).toNat = 48 + k := by
  unfold digitB
  rw [UInt8.toNat_ofNat']
  omega

theorem dec_lt {n : Nat} (h : n < 10) : dec n = [digitB n] := by
  rw [dec]; simp [h]

theorem dec_ge {n : Nat} (h : 10 ≤ n) : dec n = dec (n / 10) ++ [digitB (n % 10)] := by
  rw [dec]; simp [Nat.not_lt.mpr h]

theorem dec_snoc (m k : Nat) (hm : 1 ≤ m) (hk : k ≤ 9) : dec (10 * m + k) = dec m ++ [digitB k] := by
  rw [dec_ge (by omega)]
  have h1 : (10 * m + k) / 10 = m := by omega
  have h2 : (10 * m + k) % 10 = k := by omega
  rw [h1, h2]

theorem dec_pre (n : Nat) : dec n = preB n ++ [digitB (n % 10)] := by
  unfold preB
  by_cases h : n < 10
  · simp [h, dec_lt h, Nat.mod_eq_of_lt h]
  · simp [h, dec_ge (Nat.not_lt.mp h)]

theorem dec_ne_nil (n : Nat) : dec n ≠ [] := by
  rw [dec_pre]; simp

theorem numDigits_pos (n : Nat) : 1 ≤ numDigits n := List.length_pos_iff.mpr (dec_ne_nil n)

theorem numDigits_lt {n : Nat} (h : n < 10) : numDigits n = 1 := by
  unfold numDigits; rw [dec_lt h]; rfl

theorem numDigits_ge {n : Nat} (h : 10 ≤ n) : numDigits n = numDigits (n / 10) + 1 := by
  unfold numDigits; rw [dec_ge h]; simp

theorem numDigits_le_iff {n d : Nat} (hd : 1 ≤ d) : numDigits n ≤ d ↔ n < 10 ^ d := by
  induction d generalizing n with
  | zero => omega
  | succ d ih =>
    have hp := Nat.pow_pos (n := d) (show 0 < 10 by omega)
    rw [Nat.pow_succ]
    by_cases h : n < 10
    · rw [numDigits_lt h]; omega
    · rw [numDigits_ge (Nat.not_lt.mp h), Nat.add_le_add_iff_right]
      cases d with
      | zero => have := numDigits_pos (n / 10); omega
      | succ d => rw [ih (by omega)]; omega

theorem lt_pow_numDigits (n : Nat) : n < 10 ^ numDigits n :=
  (numDigits_le_iff (numDigits_pos n)).mp (Nat.le_refl _)

theorem numDigits_mono {a b : Nat} (h : a ≤ b) : numDigits a ≤ numDigits b :=
  (numDigits_le_iff (numDigits_pos b)).mpr (Nat.lt_of_le_of_lt h (lt_pow_numDigits b))

theorem lang_litRx (u w : List B) : lang (litRx u) w ↔ w = u := by
  induction u generalizing w with
  | nil => exact Iff.rfl
  | cons b u ih =>
    rw [litRx, lang_byte_cat]
    exact ⟨fun ⟨v, hw, hv⟩ => by rw [hw, (ih v).mp hv], fun hw => ⟨u, hw, (ih u).mpr rfl⟩⟩

theorem spells_litDec (n : Nat) : Spells dec (fun _ => True) (litRx (dec n)) (· = n) := fun w => by
  rw [lang_litRx]
  exact ⟨fun hw => ⟨n, trivial, hw, rfl⟩, fun ⟨_, _, hw, e⟩ => e ▸ hw⟩

theorem lang_clsRx (lo hi : Nat) (hhi : hi ≤ 9) (w : List B) :
    lang (clsRx lo hi) w ↔ ∃ k, lo ≤ k ∧ k ≤ hi ∧ w = [digitB k] := by
  simp only [clsRx, lang, inSet, List.any_cons, List.any_nil, Bool.or_false, Bool.and_eq_true,
    decide_eq_true_eq]
  constructor
  · rintro ⟨b, hw, h1, h2⟩
    refine ⟨b.toNat - 48, by omega, by omega, ?_⟩
    rw [hw]
    congr 1
    apply UInt8.toNat_inj.mp
    rw [digitB_toNat _ (by omega)]
    omega
  · rintro ⟨k, h1, h2, hw⟩
    refine ⟨digitB k, hw, ?_, ?_⟩ <;> rw [digitB_toNat _ (by omega)] <;> omega

def AllDig (d : List Nat) : Prop := ∀ a ∈ d, a ≤ 9
def digB (d : List Nat) : List B := d.map digitB

theorem allDig_nil : AllDig [] := List.forall_mem_nil _
theorem allDig_cons {a : Nat} {d : List Nat} : AllDig (a :: d) ↔ a ≤ 9 ∧ AllDig d := List.forall_mem_cons
theorem allDig_append {u v : List Nat} : AllDig (u ++ v) ↔ AllDig u ∧ AllDig v := List.forall_mem_append

theorem dec_append_digB (x : List Nat) (hx : AllDig x) (m : Nat) (hm : 1 ≤ m) :
    ∃ n, m * 10 ^ x.length ≤ n ∧ dec m ++ digB x = dec n := by
  induction x generalizing m with
  | nil => exact ⟨m, by simp, by simp [digB]⟩
  | cons k x ih =>
    obtain ⟨hk, hx'⟩ := allDig_cons.mp hx
    obtain ⟨n, h1, h2⟩ := ih hx' (10 * m + k) (by omega)
    refine ⟨n, Nat.le_trans ?_ h1, ?_⟩
    · rw [List.length_cons, Nat.pow_succ, ← Nat.mul_assoc, Nat.mul_right_comm]
      exact Nat.mul_le_mul_right _ (by omega)
    · rw [← h2, dec_snoc m k hm hk]; simp [digB]

theorem dec_shape (n : Nat) (hn : 1 ≤ n) :
    ∃ a x, 1 ≤ a ∧ a ≤ 9 ∧ AllDig x ∧ dec n = digB (a :: x) := by
  induction n using Nat.strongRecOn with
  | _ n ih =>
    by_cases h : n < 10
    · exact ⟨n, [], hn, by omega, allDig_nil, dec_lt h⟩
    · have h10 := Nat.not_lt.mp h
      obtain ⟨a, x, h1, h2, h3, h4⟩ := ih (n / 10) (by omega) (by omega)
      refine ⟨a, x ++ [n % 10], h1, h2, allDig_append.mpr ⟨h3, ?_⟩, ?_⟩
      · intro k hk; rw [List.mem_singleton.mp hk]; omega
      · rw [dec_ge h10, h4]; simp [digB]

def Hd (lo hi : Nat) (P : List Nat → Prop) : List Nat → Prop
  | [] => False
  | k :: d => lo ≤ k ∧ k ≤ hi ∧ P d

theorem spells_hd {r : Rx} {P : List Nat → Prop} (lo hi : Nat) (hhi : hi ≤ 9)
    (h : Spells digB AllDig r P) : Spells digB AllDig (cat (clsRx lo hi) r) (Hd lo hi P) := by
  intro w
  simp only [lang_cat, lang_clsRx lo hi hhi, h _]
  constructor
  · rintro ⟨_, _, hw, ⟨k, h1, h2, rfl⟩, d, hd, rfl, hp⟩
    exact ⟨k :: d, allDig_cons.mpr ⟨by omega, hd⟩, hw, h1, h2, hp⟩
  · rintro ⟨_ | ⟨k, d⟩, hd, hw, hp⟩
    · exact hp.elim
    · exact ⟨_, _, hw, ⟨k, hp.1, hp.2.1, rfl⟩, d, (allDig_cons.mp hd).2, rfl, hp.2.2⟩

theorem spells_hd_iff {r : Rx} {P Q : List Nat → Prop} (lo hi : Nat) (hhi : hi ≤ 9)
    (h : Spells digB AllDig r P) (hnil : ¬ Q [])
    (hcons : ∀ k t, k ≤ 9 → (lo ≤ k ∧ k ≤ hi ∧ P t ↔ Q (k :: t))) :
    Spells digB AllDig (cat (clsRx lo hi) r) Q :=
  (spells_hd lo hi hhi h).congr fun d hd => by
    cases d with
    | nil => exact iff_of_false id hnil
    | cons k t => exact hcons k t (allDig_cons.mp hd).1

theorem spells_star_cls (lo hi : Nat) (hhi : hi ≤ 9) :
    Spells digB AllDig (star (clsRx lo hi)) (fun d => ∀ k ∈ d, lo ≤ k ∧ k ≤ hi) := by
  intro w
  constructor
  · rintro ⟨ws, rfl, hws⟩
    induction ws with
    | nil => exact ⟨[], allDig_nil, rfl, fun _ h => nomatch h⟩
    | cons u ws ih =>
      obtain ⟨k, h1, h2, rfl⟩ := (lang_clsRx lo hi hhi u).mp (hws u List.mem_cons_self)
      obtain ⟨d, hd, hw, hp⟩ := ih fun v hv => hws v (List.mem_cons_of_mem _ hv)
      refine ⟨k :: d, allDig_cons.mpr ⟨by omega, hd⟩, by rw [List.flatten_cons, hw]; rfl, ?_⟩
      exact List.forall_mem_cons.mpr ⟨⟨h1, h2⟩, hp⟩
  · rintro ⟨d, -, rfl, hp⟩
    induction d with
    | nil => exact ⟨[], rfl, fun _ h => nomatch h⟩
    | cons k d ih =>
      obtain ⟨hk, hp'⟩ := List.forall_mem_cons.mp hp
      obtain ⟨ws, hw, hws⟩ := ih hp'
      refine ⟨[digitB k] :: ws, by rw [List.flatten_cons, ← hw]; rfl, ?_⟩
      exact List.forall_mem_cons.mpr ⟨(lang_clsRx lo hi hhi _).mpr ⟨k, hk.1, hk.2, rfl⟩, hws⟩

theorem spells_digitsGe (n : Nat) : Spells digB AllDig (digitsGe n) (fun d => n ≤ d.length) := by
  induction n with
  | zero =>
    exact (spells_star_cls 0 9 (Nat.le_refl 9)).congr fun d hd =>
      iff_of_true (fun k hk => ⟨Nat.zero_le k, hd k hk⟩) (Nat.zero_le _)
  | succ n ih =>
    exact spells_hd_iff 0 9 (Nat.le_refl 9) ih (by simp) fun k t hk => by
      simp only [Nat.zero_le, hk, true_and, List.length_cons, Nat.add_le_add_iff_right]

end LlgVerif
