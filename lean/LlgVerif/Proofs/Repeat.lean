/- Repetition factorisation (`Model/Repeat.lean`): every builder derives exactly the counts it names,
for every block size `K` (`at_most` and what is built on it: `K ≥ 1`). -/
import LlgVerif.Model.Repeat
namespace LlgVerif
namespace GExp

def HasUnit (e : GExp) (u : Nat) : Prop := ∀ c, counts e c ↔ c = u

theorem hasUnit_elt : HasUnit elt 1 := fun _ => Iff.rfl

theorem counts_join_pair (a b : GExp) (c : Nat) :
    counts (join [a, b]) c ↔ ∃ x y, c = x + y ∧ counts a x ∧ counts b y := by
  simp only [counts, counts.countsSeq]
  constructor
  · rintro ⟨x, _, hc, ha, y, _, rfl, hb, rfl⟩
    exact ⟨x, y, hc, ha, hb⟩
  · rintro ⟨x, y, hc, ha, hb⟩
    exact ⟨x, y, hc, ha, y, 0, rfl, hb, rfl⟩

theorem counts_select_pair (a b : GExp) (c : Nat) :
    counts (select [a, b]) c ↔ counts a c ∨ counts b c := by
  simp only [counts, counts.countsAlt, or_false]

theorem countsSeq_singleton (g : GExp) (c : Nat) : counts.countsSeq [g] c ↔ counts g c :=
  ⟨fun ⟨_, _, hc, ha, hb⟩ => by rwa [hc, hb], fun h => ⟨c, 0, rfl, h, rfl⟩⟩

theorem countsAlt_iff (xs : List GExp) (c : Nat) :
    counts.countsAlt xs c ↔ ∃ x ∈ xs, counts x c := by
  induction xs with
  | nil => simp [counts.countsAlt]
  | cons x xs ih => simp only [counts.countsAlt, ih, List.mem_cons, exists_eq_or_imp]

/-- The count sets of the factorisation are segments of an arithmetic progression: `e` derives
exactly the counts `j * u` with `lo ≤ j ≤ hi`.  `join` adds such segments block-wise
(`Span.join`), `select` unites them (`Span.select`). -/
def Span (e : GExp) (u lo hi : Nat) : Prop :=
  ∀ c, counts e c ↔ ∃ j, lo ≤ j ∧ j ≤ hi ∧ c = j * u

theorem span_point {e : GExp} {u n : Nat} : Span e u n n ↔ HasUnit e (n * u) :=
  forall_congr' fun _ => iff_congr Iff.rfl
    ⟨fun ⟨_, h1, h2, hc⟩ => Nat.le_antisymm h2 h1 ▸ hc,
      fun hc => ⟨n, Nat.le_refl _, Nat.le_refl _, hc⟩⟩

theorem Span.cast {e : GExp} {u lo hi lo' hi' : Nat} (h : Span e u lo hi) (hl : lo = lo')
    (hh : hi = hi') : Span e u lo' hi' := hl ▸ hh ▸ h

theorem Span.one {e : GExp} {lo hi : Nat} (h : Span e 1 lo hi) (c : Nat) :
    counts e c ↔ lo ≤ c ∧ c ≤ hi :=
  (h c).trans ⟨fun ⟨j, h1, h2, hc⟩ => by omega, fun ⟨h1, h2⟩ => ⟨c, h1, h2, by omega⟩⟩

/-- `x` blocks of `K` and `y` singles; `h`: the number of blocks is fixed or the singles fill a block
(otherwise there are gaps between the blocks) -/
theorem block_split {K lo hi r j : Nat} (hle : lo ≤ hi) (h : lo = hi ∨ K ≤ r + 1) :
    (∃ x y, lo ≤ x ∧ x ≤ hi ∧ y ≤ r ∧ j = x * K + y) ↔
      lo * K ≤ j ∧ j ≤ hi * K + r := by
  constructor
  · rintro ⟨x, y, hx1, hx2, hy, rfl⟩
    exact ⟨Nat.le_add_right_of_le (Nat.mul_le_mul_right K hx1),
      Nat.add_le_add (Nat.mul_le_mul_right K hx2) hy⟩
  · rintro ⟨h1, h2⟩
    by_cases hj : hi * K ≤ j
    · -- the last block, with what is left as singles
      exact ⟨hi, j - hi * K, hle, Nat.le_refl _, Nat.sub_le_iff_le_add'.mpr h2,
        (Nat.add_sub_cancel' hj).symm⟩
    · have hK : 0 < K := Nat.pos_of_ne_zero fun h0 => hj (h0 ▸ Nat.zero_le _)
      have hlt : lo ≠ hi := fun e => hj (e ▸ h1)
      exact ⟨j / K, j % K, (Nat.le_div_iff_mul_le hK).mpr h1,
        Nat.le_of_lt ((Nat.div_lt_iff_lt_mul hK).mpr (Nat.lt_of_not_le hj)),
        Nat.le_of_lt_succ (Nat.lt_of_lt_of_le (Nat.mod_lt j hK) (h.resolve_left hlt)),
        (Nat.div_add_mod' j K).symm⟩

theorem Span.join {a b : GExp} {K u lo hi r : Nat} (ha : Span a (K * u) lo hi) (hb : Span b u 0 r)
    (hle : lo ≤ hi) (h : lo = hi ∨ K ≤ r + 1) : Span (join [a, b]) u (lo * K) (hi * K + r) := by
  intro c
  have split : ∀ x y, (x * K + y) * u = x * (K * u) + y * u := fun x y => by
    rw [Nat.add_mul, Nat.mul_assoc]
  simp only [counts_join_pair, ha _, hb _]
  constructor
  · rintro ⟨_, _, rfl, ⟨x, hx1, hx2, rfl⟩, ⟨y, _, hy, rfl⟩⟩
    obtain ⟨h1, h2⟩ := (block_split hle h).mp ⟨x, y, hx1, hx2, hy, rfl⟩
    exact ⟨x * K + y, h1, h2, (split x y).symm⟩
  · rintro ⟨j, h1, h2, rfl⟩
    obtain ⟨x, y, hx1, hx2, hy, rfl⟩ := (block_split hle h).mpr ⟨h1, h2⟩
    exact ⟨_, _, split x y, ⟨x, hx1, hx2, rfl⟩, ⟨y, Nat.zero_le _, hy, rfl⟩⟩

/-- two segments that overlap or touch -/
theorem Span.select {a b : GExp} {u l1 h1 l2 h2 : Nat} (ha : Span a u l1 h1) (hb : Span b u l2 h2)
    (h : l1 ≤ h2 + 1 ∧ l2 ≤ h1 + 1) : Span (select [a, b]) u (min l1 l2) (max h1 h2) := by
  intro c
  simp only [counts_select_pair, ha _, hb _]
  constructor
  · rintro (⟨j, hl, hh, hc⟩ | ⟨j, hl, hh, hc⟩)
    · exact ⟨j, Nat.le_trans (Nat.min_le_left ..) hl, Nat.le_trans hh (Nat.le_max_left ..), hc⟩
    · exact ⟨j, Nat.le_trans (Nat.min_le_right ..) hl, Nat.le_trans hh (Nat.le_max_right ..), hc⟩
  · rintro ⟨j, hl, hh, hc⟩
    by_cases hj : l1 ≤ j ∧ j ≤ h1
    · exact .inl ⟨j, hj.1, hj.2, hc⟩
    · exact .inr ⟨j, by omega, by omega, hc⟩

-- every lemma down to the end of the file takes `h` first
variable {e : GExp} {u : Nat} (h : HasUnit e u)
include h

theorem countsSeq_replicate_append (m : Nat) (ys : List GExp) (c : Nat) :
    counts.countsSeq (List.replicate m e ++ ys) c ↔
      ∃ b, c = m * u + b ∧ counts.countsSeq ys b := by
  induction m generalizing c with
  | zero =>
    rw [List.replicate_zero, List.nil_append]
    exact ⟨fun hc => ⟨c, by omega, hc⟩, fun ⟨b, hc, hb⟩ => by rwa [show c = b by omega]⟩
  | succ m ih =>
    simp only [List.replicate_succ, List.cons_append, counts.countsSeq, h _, ih]
    constructor
    · rintro ⟨a, _, rfl, ha, b, rfl, hb⟩
      exact ⟨b, by rw [Nat.succ_mul]; omega, hb⟩
    · rintro ⟨b, rfl, hb⟩
      exact ⟨u, m * u + b, by rw [Nat.succ_mul]; omega, rfl, b, rfl, hb⟩

theorem counts_simpleRepeat (n : Nat) :
    HasUnit (simpleRepeat e n) (n * u) := fun c => by
  have := countsSeq_replicate_append h n [] c
  rw [List.append_nil] at this
  exact this.trans ⟨fun ⟨_, hc, hb⟩ => hc.trans (congrArg _ hb), fun hc => ⟨0, hc, rfl⟩⟩

theorem counts_repeatExact (K fuel n : Nat) :
    HasUnit (repeatExact K fuel e n) (n * u) := by
  induction fuel generalizing e u n with
  | zero => exact counts_simpleRepeat h n
  | succ fuel ih =>
    unfold repeatExact
    split
    · -- `n % K` singles, then `n / K` blocks of `K`
      intro c
      have hin := ih (counts_simpleRepeat h K) (n / K)
      have key : n % K * u + n / K * (K * u) = n * u := by
        rw [← Nat.mul_assoc, ← Nat.add_mul, Nat.add_comm, Nat.div_add_mod']
      simp only [counts, countsSeq_replicate_append h, countsSeq_singleton, hin _]
      exact ⟨fun ⟨_, hc, hb⟩ => by rw [hc, hb, key], fun hc => ⟨_, by rw [hc, key], rfl⟩⟩
    · exact counts_simpleRepeat h n

theorem span_select_range (n : Nat) :
    Span (select ((List.range (n + 1)).map (simpleRepeat e))) u 0 n := fun c => by
  simp only [counts, countsAlt_iff, List.mem_map, List.mem_range, Nat.lt_succ_iff, Nat.zero_le, true_and]
  exact ⟨fun ⟨_, ⟨j, hj, hx⟩, hc⟩ => ⟨j, hj, (counts_simpleRepeat h j c).mp (hx ▸ hc)⟩,
    fun ⟨j, hj, hc⟩ => ⟨_, ⟨j, hj, rfl⟩, (counts_simpleRepeat h j c).mpr hc⟩⟩

theorem span_atMost (K fuel : Nat) (hK : 1 ≤ K) (n : Nat) :
    Span (atMost K fuel e n) u 0 n := by
  induction fuel generalizing e u n with
  | zero => exact span_select_range h n
  | succ fuel ih =>
    -- `empty` is zero repetitions
    have hE : Span empty u 0 0 := span_point.mpr (counts_simpleRepeat h 0)
    unfold atMost
    by_cases h0 : n = 0
    · subst h0
      exact hE
    rw [if_neg h0]
    by_cases h1 : n = 1
    · -- `n = 1`: empty or one
      subst h1
      exact hE.select (span_point (n := 1) |>.mpr ((Nat.one_mul u).symm ▸ h)) ⟨Nat.zero_le _, Nat.le_refl _⟩
    rw [if_neg h1]
    by_cases hn3 : n < 3 * K
    · -- `n < 3 * K`: the list of all counts
      rw [if_pos hn3]
      exact span_select_range h n
    · -- exactly `n / K` blocks and at most `n % K` singles (`hN`), or fewer blocks and at most
      -- `K - 1` singles (`hM`)
      rw [if_neg hn3]
      have hq : 1 ≤ n / K := (Nat.le_div_iff_mul_le hK).mpr (by omega)
      have hn : n / K * K + n % K = n := Nat.div_add_mod' n K
      have hqK : (n / K - 1) * K + (K - 1) = n / K * K - 1 := by
        rw [← Nat.add_sub_assoc hK, ← Nat.succ_mul, Nat.succ_eq_add_one, Nat.sub_add_cancel hq]
      have hEltK := counts_simpleRepeat h K
      have hN : Span _ u (n / K * K) n :=
        ((span_point.mpr (counts_repeatExact hEltK K n (n / K))).join (ih h (n % K))
          (Nat.le_refl _) (.inl rfl)).cast rfl hn
      have hM : Span _ u 0 (n / K * K - 1) :=
        ((ih hEltK (n / K - 1)).join (ih h (K - 1)) (Nat.zero_le _)
          (.inr (Nat.le_of_eq (Nat.sub_add_cancel hK).symm))).cast (Nat.zero_mul K) hqK
      exact (hN.select hM ⟨Nat.le_add_of_sub_le (Nat.le_refl _), Nat.zero_le _⟩).cast
        (Nat.min_zero _) (Nat.max_eq_left (Nat.le_trans (Nat.sub_le ..) (Nat.le.intro hn)))

-- outside `GExp`: the checks audit it as `LlgVerif.counts_star_unit`
theorem _root_.LlgVerif.counts_star_unit (c : Nat) :
    counts (star e) c ↔ ∃ k, c = k * u := by
  simp only [counts, h _]
  constructor
  · rintro ⟨cs, rfl, hall⟩
    refine ⟨cs.length, ?_⟩
    induction cs with
    | nil => simp
    | cons x xs ih =>
      rw [List.sum_cons, List.length_cons, Nat.succ_mul, hall x List.mem_cons_self,
        ih fun y hy => hall y (List.mem_cons_of_mem _ hy), Nat.add_comm]
  · rintro ⟨k, rfl⟩
    exact ⟨List.replicate k u, by simp, fun x hx => (List.mem_replicate.mp hx).2⟩

theorem span_repeat (K : Nat) (hK : 1 ≤ K) (m n : Nat) (g : GExp) (hg : repeat? K e m (some n) = some g) : Span g u m n := by
  have hex := counts_repeatExact h K m m
  simp only [repeat?] at hg
  split at hg
  · cases hg -- `m > n`: the assertion of the Rust code
  rename_i hmn
  split at hg
  · -- `m = n`
    rename_i heq
    cases hg
    exact heq ▸ span_point.mpr hex
  split at hg
  · -- `m = 0`
    rename_i h0
    cases hg
    exact h0 ▸ span_atMost h K n hK n
  · -- `0 < m < n`: exactly `m`, then at most `n - m`
    cases hg
    exact ((span_point.mpr ((Nat.one_mul u).symm ▸ hex)).join (K := 1)
      (span_atMost h K (n - m) hK (n - m)) (Nat.le_refl _) (.inl rfl)).cast (Nat.mul_one m)
      (by rw [Nat.mul_one, Nat.add_sub_cancel' (Nat.le_of_not_lt hmn)])

theorem counts_atLeast (K m c : Nat) :
    counts (atLeast K e m) c ↔ ∃ j, m ≤ j ∧ c = j * u := by
  unfold atLeast
  split
  · rename_i h0
    rw [counts_star_unit h, h0]
    exact ⟨fun ⟨k, hc⟩ => ⟨k, Nat.zero_le _, hc⟩, fun ⟨j, _, hc⟩ => ⟨j, hc⟩⟩
  · simp only [counts_join_pair, counts_repeatExact h K m m _, counts_star_unit h]
    constructor
    · rintro ⟨_, _, rfl, rfl, k, rfl⟩
      exact ⟨m + k, Nat.le_add_right .., (Nat.add_mul ..).symm⟩
    · rintro ⟨j, hj, rfl⟩
      exact ⟨_, _, by rw [← Nat.add_mul, Nat.add_sub_cancel' hj], rfl, j - m, rfl⟩

end GExp
end LlgVerif
