/-
`Decimal::checked_lcm` (`Dec.checkedLcm`): when it returns, no intermediate exceeded `u32` and the value
is the least common multiple of the two operands at their common scale.
-/
import LlgVerif.Model.Numeric
namespace LlgVerif

theorem stripZeros_value (f c e E : Nat) (hE : e ≤ E) :
    (stripZeros f c e).2 ≤ e ∧
    (stripZeros f c e).1 * 10 ^ (E - (stripZeros f c e).2) = c * 10 ^ (E - e) ∧
    (stripZeros f c e).1 ≤ c := by
  induction f generalizing c e with
  | zero => exact ⟨Nat.le_refl _, rfl, Nat.le_refl _⟩
  | succ f ih =>
    simp only [stripZeros]
    split
    · rename_i h
      obtain ⟨h1, h2, h3⟩ := ih (c / 10) (e - 1) (by omega)
      refine ⟨by omega, ?_, by omega⟩
      -- one zero moves from the coefficient into the power of ten
      rw [h2, show E - (e - 1) = (E - e) + 1 by omega, Nat.pow_succ, Nat.mul_comm _ 10, ← Nat.mul_assoc,
        Nat.div_mul_cancel (Nat.dvd_of_mod_eq_zero h.2)]
    · exact ⟨Nat.le_refl _, rfl, Nat.le_refl _⟩

theorem checkedMul_eq_some {a b c : Nat} : checkedMul a b = some c ↔ a * b ≤ u32Max ∧ a * b = c := by
  unfold checkedMul; split <;> simp [*]

theorem checkedPow10_eq_some {k c : Nat} : checkedPow10 k = some c ↔ 10 ^ k ≤ u32Max ∧ 10 ^ k = c := by
  unfold checkedPow10; split <;> simp [*]

theorem div_gcd_mul (a b : Nat) : a / Nat.gcd a b * b = Nat.lcm a b := by
  unfold Nat.lcm
  rw [Nat.mul_comm (a / Nat.gcd a b) b, ← Nat.mul_div_assoc b (Nat.gcd_dvd_left a b), Nat.mul_comm]

theorem max_sub_left (a b : Nat) : max a b - a = b - a := by omega
theorem max_sub_right (a b : Nat) : max a b - b = a - b := Nat.max_comm a b ▸ max_sub_left b a

/-- For nonzero operands, the checked least common multiple either reports an error or
returns, without any intermediate exceeding `u32`, a decimal whose value is exactly the least
common multiple of the two `multipleOf` values (scaled to the common exponent `E`). -/
theorem lcm_no_overflow_or_error (x y d : Dec) (hx : x.coef ≠ 0) (hy : y.coef ≠ 0)
    (h : x.checkedLcm y = some d) :
    let E := max x.exp y.exp
    let a := x.coef * 10 ^ (E - x.exp)
    let b := y.coef * 10 ^ (E - y.exp)
    a ≤ u32Max ∧ b ≤ u32Max ∧ Nat.lcm a b ≤ u32Max ∧
    d.exp ≤ E ∧ d.coef * 10 ^ (E - d.exp) = Nat.lcm a b ∧ d.coef ≤ u32Max := by
  simp only [max_sub_left, max_sub_right]
  -- every checked step succeeded, so each intermediate fits
  simp only [Dec.checkedLcm, hx, hy, or_self, ↓reduceIte, Option.bind_eq_bind, Option.bind_eq_some_iff,
    checkedMul_eq_some, checkedPow10_eq_some, Option.pure_def, Option.some.injEq, div_gcd_mul] at h
  obtain ⟨_, ⟨_, rfl⟩, _, ⟨hm1, rfl⟩, _, ⟨_, rfl⟩, _, ⟨hm2, rfl⟩, _, ⟨hm3, rfl⟩, rfl⟩ := h
  have hl : Nat.lcm (x.coef * 10 ^ (y.exp - x.exp)) (y.coef * 10 ^ (x.exp - y.exp)) ≠ 0 :=
    Nat.lcm_ne_zero (Nat.mul_ne_zero hx (Nat.pos_iff_ne_zero.mp (Nat.pow_pos (by decide))))
      (Nat.mul_ne_zero hy (Nat.pos_iff_ne_zero.mp (Nat.pow_pos (by decide))))
  obtain ⟨s1, s2, s3⟩ := stripZeros_value (max x.exp y.exp) _ (max x.exp y.exp) (max x.exp y.exp) (Nat.le_refl _)
  simp only [Dec.new, hl, ↓reduceIte]
  exact ⟨hm1, hm2, hm3, s1, by rw [s2, Nat.sub_self, Nat.pow_zero, Nat.mul_one], by omega⟩

end LlgVerif
