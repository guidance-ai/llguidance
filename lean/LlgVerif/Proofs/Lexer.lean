/-
The byte-level engine M5: what `push`, `advance`, `scanSet`, `flush` and `lowest` do, branch by branch, as
equations; then the invariant `Inv` in two halves (`Parsed`, `Tracks`).  It holds in every state reached
from `init` (`reach_inv`); the theorems of `Props/C05Bytes.lean` and `Props/C10.lean` read their
conclusions off its parts.
-/
import LlgVerif.Model.Lexer
import LlgVerif.Proofs.RegexDfa
import LlgVerif.Proofs.Earley
namespace LlgVerif
namespace Lx

/-- bytes `w` of one lexeme, with the lexeme set `S` the lexer ended it with -/
structure Chunk where
  S : List Nat
  w : List B

def isSkipChunk (C : Cfg) (c : Chunk) : Bool := (c.S.find? (fun l => (C.lx l).skip)).isSome

def nonSkipSets (C : Cfg) (cs : List Chunk) : List (List Nat) :=
  (cs.filter (fun c => !isSkipChunk C c)).map (·.S)

def bytesOf (cs : List Chunk) : List B := (cs.map (·.w)).flatten

def lastRow (rows : List (List Ey.Item)) : List Ey.Item := rows.getD (rows.length - 1) []

-- never unfolded here.  Left reducible, every application elaborated against an expected type
-- `Rx.lang (C.lx l).rx w` has Lean normalise that type in search of binders, and `lang`, recursive in the
-- regex, sends it evaluating `(C.lx l).rx` through the table lookup.
attribute [local irreducible] Rx.lang

section
variable {C : Cfg}

theorem mem_insertNat (x y : Nat) (l : List Nat) : y ∈ insertNat x l ↔ y = x ∨ y ∈ l := by
  induction l with
  | nil => simp [insertNat]
  | cons z zs ih =>
    unfold insertNat
    split
    · simp
    · split
      · rename_i h; subst h; simp
      · simp only [List.mem_cons, ih]; exact or_left_comm

theorem mem_canon {x : Nat} {l : List Nat} : x ∈ canon l ↔ x ∈ l := by
  simpa [canon] using mem_foldl_insert mem_insertNat l [] x

theorem mem_start {al : List Nat} {e : Nat × Nat} :
    e ∈ start C al ↔ e.1 ∈ al ∧ e.2 = 0 ∧ liveAt (C.lx e.1).dfa 0 = true := by
  obtain ⟨l, q⟩ := e
  simp only [start, List.mem_filterMap, mem_canon, Option.ite_none_right_eq_some, Option.some.injEq,
    Prod.mk.injEq]
  exact ⟨fun ⟨i, hi, hl, h1, h2⟩ => h1 ▸ ⟨hi, h2.symm, hl⟩, fun ⟨hi, h2, hl⟩ => ⟨l, hi, hl, rfl, h2.symm⟩⟩

theorem mem_possible_start {al : List Nat} {l : Nat} (h : l ∈ possible (start C al)) : l ∈ al := by
  obtain ⟨e, he, rfl⟩ := List.mem_map.mp h
  exact (mem_start.mp he).1

theorem mem_step {s : LState} {b : B} {e : Nat × Nat} :
    e ∈ step C s b ↔ ∃ q, (e.1, q) ∈ s ∧ e.2 = (C.lx e.1).dfa.next q b ∧ liveAt (C.lx e.1).dfa e.2 = true := by
  unfold step
  rw [List.mem_filterMap]
  constructor
  · rintro ⟨e0, he0, h⟩
    simp only at h
    split at h
    · rename_i hl; cases h; exact ⟨e0.2, he0, rfl, hl⟩
    · cases h
  · rintro ⟨q, hm, h2, hl⟩
    exact ⟨(e.1, q), hm, by simp only [← h2, hl, ↓reduceIte]⟩

theorem mem_accepting {s : LState} {l : Nat} :
    l ∈ accepting C s ↔ ∃ q, (l, q) ∈ s ∧ accAt (C.lx l).dfa q = true := by
  simp only [accepting, List.mem_map, List.mem_filter, Prod.exists]
  exact ⟨fun ⟨l0, q, h, e⟩ => by subst e; exact ⟨q, h⟩, fun ⟨q, h⟩ => ⟨l, q, h, rfl⟩⟩

theorem allEoi_iff {s : LState} :
    allEoi C s = true ↔ s ≠ [] ∧ ∀ e ∈ s, accAt (C.lx e.1).dfa e.2 = true ∧
      ∀ b : B, liveAt (C.lx e.1).dfa ((C.lx e.1).dfa.next e.2 b) = false := by
  simp [allEoi, eoi, Dfa.mem_allBytes]

theorem lowest_eq {s lz : LState}
    (h : lz = s.filter fun e => (C.lx e.1).isLazy && accAt (C.lx e.1).dfa e.2) :
    lowest C s = if lz = [] then (if allEoi C s then possible s else []) else lz.map (·.1) := by
  by_cases hz : lz = [] <;> simp [lowest, ← h, hz]

theorem lowest_sub_accepting {s : LState} {l : Nat} (hl : l ∈ lowest C s) : l ∈ accepting C s := by
  rw [mem_accepting]
  rw [lowest_eq rfl] at hl
  split at hl
  · split at hl
    · rename_i hall
      obtain ⟨e, he, rfl⟩ := List.mem_map.mp hl
      exact ⟨e.2, he, ((allEoi_iff.mp hall).2 e he).1⟩
    · cases hl
  · obtain ⟨e, he, rfl⟩ := List.mem_map.mp hl
    obtain ⟨he, hacc⟩ := List.mem_filter.mp he
    exact ⟨e.2, he, (Bool.and_eq_true_iff.mp hacc).2⟩

theorem bytesOf_append (cs : List Chunk) (c : Chunk) : bytesOf (cs ++ [c]) = bytesOf cs ++ c.w := by
  simp [bytesOf]

theorem nonSkipSets_append (C : Cfg) (cs : List Chunk) (c : Chunk) :
    nonSkipSets C (cs ++ [c]) = nonSkipSets C cs ++ (if isSkipChunk C c then [] else [c.S]) := by
  cases h : isSkipChunk C c <;> simp [nonSkipSets, List.filter_append, h]

theorem lastRow_snoc (rows : List (List Ey.Item)) (row : List Ey.Item) : lastRow (rows ++ [row]) = row := by
  simp [lastRow]

theorem lastRow_runRows (g : Ey.CG) (lexs : List (List Nat)) :
    lastRow (Ey.runRows g lexs) = (Ey.runRows g lexs).getD lexs.length [] := by
  rw [lastRow, Ey.runRows_len, Nat.add_sub_cancel]

theorem allowedFor_ok {row : List Ey.Item} {ws : Bool} {l : Nat} (h : l ∈ allowedFor C row ws) :
    l ∈ Ey.allowedLexemes C.g row ∨ some l = C.skipId := by
  unfold allowedFor at h
  simp only [List.mem_append] at h
  refine h.imp_right fun h => ?_
  split at h
  · exact (Option.mem_toList.mp h).symm
  · cases h

/-- a lexeme with a live state is one of the table, so its certificate is checked: a lexeme index
outside the table has the empty certificate, in which nothing is live -/
theorem check_of_live (hw : C.wf = true) {l q : Nat} (h : liveAt (C.lx l).dfa q = true) :
    Dfa.check (C.lx l).rx (C.lx l).dfa = true := by
  by_cases hl : l < C.lexemes.size
  · exact List.all_eq_true.mp hw l (List.mem_range.mpr hl)
  · have hd : C.lx l = default := by simp [Cfg.lx, Array.getD, hl]
    rw [hd] at h
    exact absurd (show (#[] : Array Bool)[q]! = true from h) (by simp)

theorem run_eq_foldlM (C : Cfg) (st : St) (w : List B) : run C st w = w.foldlM (push C) st := by
  induction w generalizing st with
  | nil => rfl
  | cons b w ih => simp only [run, List.foldlM_cons, Option.bind_eq_bind]; cases push C st b <;> simp [ih]

/-! `push` branch by branch: the vector dies (`push_dead`: greedy end, `b` already belongs to the next
lexeme); it lives and some lexeme ends here (`push_ends`: lazy match, or all at their end); it lives and
the lexeme goes on (`push_goes_on`) -/

theorem push_dead {st : St} {b : B} (hd : (step C st.ls b).isEmpty = true) :
    push C st b =
      if firstByte C b = true ∧ (accepting C st.ls).isEmpty = false then
        advance C st (accepting C st.ls) (some b) 3
      else none := by
  simp only [push, hd, ↓reduceIte]
  cases firstByte C b <;> cases (accepting C st.ls).isEmpty <;> simp

theorem push_ends {st : St} {b : B} (hd : (step C st.ls b).isEmpty = false)
    (hl : (lowest C (step C st.ls b)).isEmpty = false) :
    push C st b = advance C { st with ls := step C st.ls b } (lowest C (step C st.ls b)) none 3 := by
  simp [push, hd, hl]

theorem push_goes_on {st : St} {b : B} (hd : (step C st.ls b).isEmpty = false)
    (hl : (lowest C (step C st.ls b)).isEmpty = true) :
    push C st b = some { st with ls := step C st.ls b, pending := true } := by
  simp [push, hd, hl]

theorem scanSet_skip {st : St} {S : List Nat} {l : Nat}
    (h : S.find? (fun l => (C.lx l).skip) = some l) :
    scanSet C st S = some (st.lexs, st.rows,
      if (C.lx l).once then st.al.filter (fun x => some x != C.skipId) else st.al) := by
  simp only [scanSet, h]

theorem scanSet_scan {st : St} {S : List Nat} (h : S.find? (fun l => (C.lx l).skip) = none) :
    scanSet C st S =
      if (Ey.nextRow C.g st.rows S).isEmpty then none
      else some (st.lexs ++ [S], st.rows ++ [Ey.nextRow C.g st.rows S],
        allowedFor C (Ey.nextRow C.g st.rows S) true) := by
  simp only [scanSet, h]

/-- the state `advance` restarts the lexer in; `r` is what `scanSet` returns: the lexeme-set log, the
rows, the lexemes to restart on -/
def restart (C : Cfg) (r : List (List Nat) × List (List Ey.Item) × List Nat) (ls : LState)
    (pending : Bool) : St :=
  { lexs := r.1, rows := r.2.1, al := possible (start C r.2.2), ls, pending }

theorem advance_none {st : St} {S : List Nat} {fuel : Nat} :
    advance C st S none (fuel + 1) =
      (scanSet C st S).map fun r => restart C r (start C r.2.2) false := by
  unfold advance
  cases scanSet C st S <;> rfl

theorem advance_byte {st : St} {S : List Nat} {b : B} {fuel : Nat} :
    advance C st S (some b) (fuel + 1) =
      (scanSet C st S).bind fun r =>
        let s1 := step C (start C r.2.2) b
        if s1.isEmpty then none
        else if allEoi C s1 then advance C (restart C r s1 true) (accepting C s1) none fuel
        else some (restart C r s1 true) := by
  conv => lhs; unfold advance
  cases scanSet C st S <;> rfl

theorem flush_idle {st : St} (h : st.pending = false) : flush C st = some st := by
  simp [flush, h]

theorem flush_pending {st : St} (h : st.pending = true) :
    flush C st =
      if (accepting C st.ls).isEmpty then none else advance C st (accepting C st.ls) none 3 := by
  simp [flush, h]

/-- the entry `(l, q)` of a lexer state: `q` is the live DFA state that lexeme `l` reaches on the bytes `u`
of the open lexeme, and `l` is one of `al`, the lexemes the lexer was started on -/
structure Tracked (C : Cfg) (al : List Nat) (u : List B) (l q : Nat) : Prop where
  state_eq : q = Dfa.run (C.lx l).dfa 0 u
  live : liveAt (C.lx l).dfa q = true
  mem_al : l ∈ al

def Tracks (C : Cfg) (al : List Nat) (u : List B) (s : LState) : Prop :=
  ∀ l q, (l, q) ∈ s → Tracked C al u l q

theorem tracks_start (C : Cfg) (al : List Nat) : Tracks C (possible (start C al)) [] (start C al) :=
  fun l q he =>
    have hq : q = 0 := (mem_start.mp he).2.1
    ⟨hq, hq ▸ (mem_start.mp he).2.2, List.mem_map.mpr ⟨(l, q), he, rfl⟩⟩

theorem Tracks.step {al : List Nat} {u : List B} {s : LState} (h : Tracks C al u s) (b : B) :
    Tracks C al (u ++ [b]) (step C s b) := by
  intro l q' he
  obtain ⟨q, hm, hq, hl⟩ := mem_step.mp he
  exact ⟨by rw [Dfa.run_append, ← (h l q hm).state_eq]; exact hq, hl, (h l q hm).mem_al⟩

theorem Tracks.decides (hw : C.wf = true) {al : List Nat} {u : List B} {s : LState}
    (h : Tracks C al u s) {e : Nat × Nat} (he : e ∈ s) :
    (accAt (C.lx e.1).dfa e.2 = true ↔ Rx.lang (C.lx e.1).rx u) ∧ ∃ v, Rx.lang (C.lx e.1).rx (u ++ v) := by
  obtain ⟨l, q⟩ := e
  have h2 := (h l q he).live
  have hd := Dfa.dfa_decides (check_of_live hw h2) u
  rw [(h l q he).state_eq] at h2 ⊢
  exact ⟨hd.1, hd.2.mp h2⟩

theorem Tracks.accepting (hw : C.wf = true) {al : List Nat} {u : List B} {s : LState}
    (h : Tracks C al u s) : ∀ l ∈ accepting C s, Rx.lang (C.lx l).rx u := by
  intro l hl
  obtain ⟨q, hm, hacc⟩ := mem_accepting.mp hl
  exact (h.decides hw hm).1.mp hacc

/-- the lexemes the lexer was started on are lexemes the last row asks for, or the skip lexeme -/
def AlOK (C : Cfg) (rows : List (List Ey.Item)) (al : List Nat) : Prop :=
  ∀ l ∈ al, l ∈ Ey.allowedLexemes C.g (lastRow rows) ∨ some l = C.skipId

/-- the parser half: `cs` are the chunks closed so far, each matched by every lexeme of its set; the
rows are those of the non-skip sets -/
structure Parsed (C : Cfg) (cs : List Chunk) (lexs : List (List Nat)) (rows : List (List Ey.Item))
    (al : List Nat) : Prop where
  chunks : ∀ c ∈ cs, ∀ l ∈ c.S, Rx.lang (C.lx l).rx c.w
  lexs_eq : lexs = nonSkipSets C cs
  rows_eq : rows = Ey.runRows C.g lexs
  al_ok : AlOK C rows al

/-- `w` read as the closed chunks `cs` followed by the bytes `u` of the open lexeme -/
structure Split (C : Cfg) (st : St) (w : List B) (cs : List Chunk) (u : List B) : Prop where
  bytes : w = bytesOf cs ++ u
  parsed : Parsed C cs st.lexs st.rows st.al
  tracks : Tracks C st.al u st.ls
  idle : st.pending = false → u = []

/-- what is known of a state reached on the bytes `w` (`reach_inv`); not a characterisation of the
reachable states -/
def Inv (C : Cfg) (st : St) (w : List B) : Prop := ∃ cs u, Split C st w cs u

/-- `Inv` of a state given by its fields.  The proofs below go through this lemma: asked in place to
unify projections of a record literal with what a lemma concludes, Lean evaluates the other side as far
as it can (for `init`, through `Ey.initRow`). -/
theorem Inv.mk {cs : List Chunk} {u w : List B} {lexs : List (List Nat)} {rows : List (List Ey.Item)}
    {al : List Nat} {ls : LState} {pending : Bool} (hw : w = bytesOf cs ++ u) (hp : Parsed C cs lexs rows al)
    (ht : Tracks C al u ls) (hi : pending = false → u = []) : Inv C { lexs, rows, al, ls, pending } w :=
  ⟨cs, u, { bytes := hw, parsed := hp, tracks := ht, idle := hi }⟩

/-- `scanSet` closes the chunk `(S, u)` (`r` as for `restart`) -/
theorem Parsed.close {cs : List Chunk} {st : St} (hp : Parsed C cs st.lexs st.rows st.al)
    {S : List Nat} {u : List B} (hS : ∀ l ∈ S, Rx.lang (C.lx l).rx u)
    {r : List (List Nat) × List (List Ey.Item) × List Nat} (h : scanSet C st S = some r) :
    Parsed C (cs ++ [⟨S, u⟩]) r.1 r.2.1 (possible (start C r.2.2)) := by
  have hch : ∀ c ∈ cs ++ [(⟨S, u⟩ : Chunk)], ∀ l ∈ c.S, Rx.lang (C.lx l).rx c.w :=
    List.forall_mem_append.mpr ⟨hp.chunks, List.forall_mem_singleton.mpr hS⟩
  cases hfind : S.find? (fun l => (C.lx l).skip) with
  | some k =>
    -- a skip lexeme: the row is kept
    cases (scanSet_skip hfind).symm.trans h
    refine ⟨hch, by simp [nonSkipSets_append, hp.lexs_eq, isSkipChunk, hfind], hp.rows_eq,
      fun l hl => hp.al_ok l ?_⟩
    have := mem_possible_start hl
    split at this
    · exact (List.mem_filter.mp this).1
    · exact this
  | none =>
    rw [scanSet_scan hfind] at h
    split at h
    · cases h
    · cases h
      refine ⟨hch, by simp [nonSkipSets_append, hp.lexs_eq, isSkipChunk, hfind], ?_, fun l hl => ?_⟩
      · simp only [Ey.runRows_snoc, ← hp.rows_eq]
      · simp only [lastRow_snoc]; exact allowedFor_ok (mem_possible_start hl)

/-- `advance` closes the chunk `(S, u)`; the transition byte (if any) opens the next lexeme -/
theorem advance_inv (hw : C.wf = true) {fuel : Nat} {st st' : St} {S : List Nat} {tb : Option B}
    {cs : List Chunk} {u : List B} (hp : Parsed C cs st.lexs st.rows st.al)
    (hS : ∀ l ∈ S, Rx.lang (C.lx l).rx u) (h : advance C st S tb fuel = some st') :
    Inv C st' (bytesOf cs ++ u ++ tb.toList) := by
  induction fuel generalizing st S tb cs u with
  | zero => cases h
  | succ fuel ih =>
    rw [← bytesOf_append cs ⟨S, u⟩]
    cases tb with
    | none =>
      obtain ⟨r, hscan, rfl⟩ := Option.map_eq_some_iff.mp (advance_none.symm.trans h)
      exact Inv.mk (u := []) rfl (hp.close hS hscan) (tracks_start C _) fun _ => rfl
    | some b =>
      obtain ⟨r, hscan, h⟩ := Option.bind_eq_some_iff.mp (advance_byte.symm.trans h)
      have hp' := hp.close hS hscan
      have ht := (tracks_start C r.2.2).step b
      simp only at h
      split at h
      · cases h
      · split at h
        · -- a single-byte lexeme follows at once
          simpa using ih hp' (ht.accepting hw) h
        · cases h; exact Inv.mk rfl hp' ht nofun

theorem init_inv (C : Cfg) : Inv C (init C) [] :=
  Inv.mk (cs := []) (u := []) rfl
    ⟨by simp, rfl, rfl, fun l hl => lastRow_snoc [] _ ▸ allowedFor_ok (mem_possible_start hl)⟩
    (tracks_start C _) fun _ => rfl

theorem push_inv (hw : C.wf = true) {st st' : St} {w : List B} {b : B}
    (hi : Inv C st w) (h : push C st b = some st') : Inv C st' (w ++ [b]) := by
  obtain ⟨cs, u, hs⟩ := hi
  rw [hs.bytes]
  cases hd : (step C st.ls b).isEmpty with
  | true =>
    rw [push_dead hd] at h
    split at h
    · exact advance_inv hw hs.parsed (hs.tracks.accepting hw) h
    · cases h
  | false =>
    have ht' := hs.tracks.step b
    cases hl : (lowest C (step C st.ls b)).isEmpty with
    | false =>
      rw [push_ends hd hl] at h
      simpa using advance_inv hw (st := { st with ls := step C st.ls b }) hs.parsed
        (fun l hl => ht'.accepting hw l (lowest_sub_accepting hl)) h
    | true =>
      rw [push_goes_on hd hl] at h
      cases h
      exact Inv.mk (by simp) hs.parsed ht' nofun

theorem run_inv (hw : C.wf = true) {v : List B} {st st' : St} {w : List B} (hi : Inv C st w)
    (h : run C st v = some st') : Inv C st' (w ++ v) := by
  induction v generalizing st w with
  | nil => cases h; simpa using hi
  | cons b v ih =>
    simp only [run] at h
    split at h
    · rename_i st1 hp
      simpa using ih (push_inv hw hi hp) h
    · cases h

theorem reach_inv (hw : C.wf = true) {w : List B} {st : St} (hrun : run C (init C) w = some st) :
    Inv C st w := by
  simpa using run_inv hw (init_inv C) hrun

/-- `flush` closes the open chunk, if there is one -/
theorem flush_inv (hw : C.wf = true) {st st' : St} {w : List B}
    (hi : Inv C st w) (h : flush C st = some st') : ∃ cs, w = bytesOf cs ∧ Parsed C cs st'.lexs st'.rows st'.al := by
  obtain ⟨cs, u, hs⟩ := hi
  cases hpf : st.pending with
  | false =>
    cases (flush_idle hpf).symm.trans h
    exact ⟨cs, by simpa [hs.idle hpf] using hs.bytes, hs.parsed⟩
  | true =>
    rw [flush_pending hpf] at h
    split at h
    · cases h
    · obtain ⟨r, hscan, rfl⟩ := Option.map_eq_some_iff.mp (advance_none.symm.trans h)
      exact ⟨_, (bytesOf_append cs ⟨_, u⟩).symm ▸ hs.bytes, hs.parsed.close (hs.tracks.accepting hw) hscan⟩

theorem isAccepting_iff {st : St} :
    isAccepting C st = true ↔ ∃ st', flush C st = some st' ∧ Ey.accepting C.g st'.rows = true := by
  unfold isAccepting
  cases hf : flush C st <;> simp

theorem accepts_iff {w : List B} :
    accepts C w = true ↔ ∃ st, run C (init C) w = some st ∧ isAccepting C st = true := by
  unfold accepts
  cases hr : run C (init C) w <;> simp

end

/-- in every reachable state, each lexer entry is a lexeme the current row asks for (or the skip lexeme) -/
theorem state_entries_allowed (C : Cfg) (hw : C.wf = true) (w : List B) (st : St)
    (hrun : run C (init C) w = some st) :
    st.rows = Ey.runRows C.g st.lexs ∧
      ∀ e ∈ st.ls, e.1 ∈ Ey.allowedLexemes C.g (lastRow st.rows) ∨ some e.1 = C.skipId := by
  obtain ⟨_, _, hs⟩ := reach_inv hw hrun
  exact ⟨hs.parsed.rows_eq, fun e he => hs.parsed.al_ok e.1 (hs.tracks e.1 e.2 he).mem_al⟩

end Lx
end LlgVerif
