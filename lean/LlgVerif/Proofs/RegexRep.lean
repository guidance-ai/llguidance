/- S2: bounded repetition denotes exactly the counts it names. -/
import LlgVerif.Proofs.RegexLang
namespace LlgVerif
namespace Rx

theorem lang_repExact (r : Rx) (n : Nat) (w : List B) : lang (repExact r n) w ↔ pow (lang r) n w := by
  induction n generalizing w with
  | zero => simp [repExact, lang, pow]
  | succ n ih => simp only [repExact, lang, pow, ih]

theorem lang_repUpTo (r : Rx) (n : Nat) (w : List B) :
    lang (repUpTo r n) w ↔ ∃ c, c ≤ n ∧ pow (lang r) c w := by
  simp only [← Nat.lt_add_one_iff]
  induction n generalizing w with
  | zero => simp only [repUpTo, lang, Nat.zero_add, Nat.lt_one_iff, exists_eq_left, pow]
  | succ n ih =>
    -- no repetition, or one more than a count up to `n`
    rw [Nat.exists_lt_succ_left, repUpTo, lang_alt, lang_cat]
    exact or_congr_right
      ⟨fun ⟨u, v, hw, hu, hv⟩ => let ⟨c, hc, hp⟩ := (ih v).mp hv; ⟨c, hc, u, v, hw, hu, hp⟩,
       fun ⟨c, hc, u, v, hw, hu, hp⟩ => ⟨u, v, hw, hu, (ih v).mpr ⟨c, hc, hp⟩⟩⟩

theorem pow_add (L : List B → Prop) (a b : Nat) (w : List B) :
    pow L (a + b) w ↔ ∃ u v, w = u ++ v ∧ pow L a u ∧ pow L b v := by
  induction a generalizing w with
  | zero =>
    simp only [Nat.zero_add, pow]
    constructor
    · intro h; exact ⟨[], w, rfl, rfl, h⟩
    · rintro ⟨_, v, rfl, rfl, hv⟩; exact hv
  | succ a ih =>
    rw [Nat.add_right_comm a 1 b]
    simp only [pow, ih]
    constructor
    · rintro ⟨u, v, hw, hu, u', v', hv, hu', hv'⟩
      exact ⟨u ++ u', v', by simp [hw, hv], ⟨u, u', rfl, hu, hu'⟩, hv'⟩
    · rintro ⟨x, v', hw, ⟨u, u', hx, hu, hu'⟩, hv'⟩
      exact ⟨u, u' ++ v', by simp [hw, hx], hu, u', v', rfl, hu', hv'⟩

theorem pow_cat (L : List B → Prop) (m : Nat) (P : Nat → Prop) (w : List B) :
    (∃ u v, w = u ++ v ∧ pow L m u ∧ ∃ c, P c ∧ pow L c v) ↔ ∃ c, m ≤ c ∧ P (c - m) ∧ pow L c w := by
  constructor
  · rintro ⟨u, v, hw, hu, c, hc, hv⟩
    exact ⟨m + c, by omega, by rwa [Nat.add_sub_cancel_left], (pow_add _ m c w).mpr ⟨u, v, hw, hu, hv⟩⟩
  · rintro ⟨c, hc, hp, hpw⟩
    rw [show c = m + (c - m) by omega] at hpw
    obtain ⟨u, v, hw, hu, hv⟩ := (pow_add _ m (c - m) w).mp hpw
    exact ⟨u, v, hw, hu, c - m, hp, hv⟩

-- `max m n`: for `n < m` the `n - m` of `rep` truncates to 0, which leaves exactly `m` repetitions
theorem rep_counts (r : Rx) (m : Nat) (n : Option Nat) (w : List B) :
    lang (rep r m n) w ↔
      ∃ c, m ≤ c ∧ (match n with | some n => c ≤ max m n | none => True) ∧ pow (lang r) c w := by
  cases n with
  | none =>
    rw [← pow_cat (lang r) m (fun _ => True) w]
    simp only [rep, lang_cat, lang_repExact, lang_star, true_and]
  | some n =>
    simp only [rep, lang_cat, lang_repExact, lang_repUpTo, pow_cat (lang r) m (· ≤ n - m) w]
    exact exists_congr fun c => and_congr_right fun h => and_congr_left' (by omega)

end Rx
end LlgVerif
