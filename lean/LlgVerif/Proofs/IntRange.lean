/-
`rx_int_range` on non-negative bounds (`nnRange`, `nnGe`): the pattern denotes exactly the canonical
spellings of the numbers in the range, and is returned for all bounds below 10^18.
-/
import LlgVerif.Proofs.Decimal
namespace LlgVerif
open Rx

theorem two_digits_of_prefix_ne {l r : Nat} (hd : numDigits l = numDigits r) (hne : l / 10 ≠ r / 10) :
    10 ≤ l ∧ 10 ≤ r := by
  have : l < 10 ↔ r < 10 := by
    rw [← Nat.pow_one 10, ← numDigits_le_iff (Nat.le_refl 1), ← numDigits_le_iff (Nat.le_refl 1), hd]
  omega

theorem preB_congr {n l : Nat} (h : n / 10 = l / 10) : preB n = preB l := by
  have : n < 10 ↔ l < 10 := by omega
  simp only [preB, this, h]

theorem spells_lastDigit (l lo hi : Nat) (hhi : hi ≤ 9) :
    Spells dec (fun _ => True) (cat (litRx (preB l)) (clsRx lo hi))
      (fun n => n / 10 = l / 10 ∧ lo ≤ n % 10 ∧ n % 10 ≤ hi) := by
  intro w
  simp only [lang_cat, lang_litRx, lang_clsRx lo hi hhi]
  constructor
  · rintro ⟨_, _, hw, rfl, k, h1, h2, rfl⟩
    have e : (10 * (l / 10) + k) / 10 = l / 10 := by omega
    refine ⟨10 * (l / 10) + k, trivial, ?_, e, by omega, by omega⟩
    rw [hw, dec_pre (10 * (l / 10) + k), preB_congr e]
    congr 3; omega
  · rintro ⟨n, _, hw, h1, h2, h3⟩
    exact ⟨_, _, by rw [hw, dec_pre n, preB_congr h1], rfl, n % 10, h2, h3, rfl⟩

theorem Spells.snoc_digit {I : Rx} {P : Nat → Prop} (h : Spells dec (fun _ => True) I P)
    (hpos : ∀ m, P m → 1 ≤ m) :
    Spells dec (fun _ => True) (cat I (clsRx 0 9)) (fun n => P (n / 10)) := by
  intro w
  simp only [lang_cat, h _, lang_clsRx 0 9 (Nat.le_refl 9)]
  constructor
  · rintro ⟨_, _, hw, ⟨m, _, rfl, hm⟩, k, _, hk, rfl⟩
    refine ⟨10 * m + k, trivial, by rw [hw, dec_snoc m k (hpos m hm) hk], ?_⟩
    rwa [show (10 * m + k) / 10 = m by omega]
  · rintro ⟨n, _, hw, hn⟩
    have := hpos _ hn
    exact ⟨_, _, by rw [hw, dec_ge (by omega)], ⟨n / 10, trivial, rfl, hn⟩, n % 10, by omega, by omega, rfl⟩

/-! The step of the digit recursion at `l / 10 < r / 10`.  A number of `[l, r]` lies in the decade
of `l`, in the decade of `r`, or in a decade that is inside `[l, r]` as a whole; the model's
`leftRec`, `rightRec` are the first and last such decade (the decade of `l` is one when `l` ends in
`0`, that of `r` when `r` ends in `9`). -/

theorem le_leftRec (l q : Nat) : (if l % 10 ≠ 0 then l / 10 + 1 else l / 10) ≤ q ↔ l ≤ 10 * q := by
  split <;> omega

theorem rightRec_le (r q : Nat) (hr : 10 ≤ r) :
    q ≤ (if r % 10 ≠ 9 then r / 10 - 1 else r / 10) ↔ 10 * q + 9 ≤ r := by
  split <;> omega

theorem spells_edge_decades (l r : Nat) (h : l / 10 < r / 10) :
    Spells dec (fun _ => True)
      (altsRx ((if l % 10 ≠ 0 then [cat (litRx (preB l)) (clsRx (l % 10) 9)] else []) ++
        (if r % 10 ≠ 9 then [cat (litRx (preB r)) (clsRx 0 (r % 10))] else [])))
      (fun n => (l ≤ n ∧ n ≤ r) ∧ ¬ (l ≤ 10 * (n / 10) ∧ 10 * (n / 10) + 9 ≤ r)) :=
  ((Spells.alts_ite _ fun _ => (Spells.alts_one (spells_lastDigit l (l % 10) 9 (Nat.le_refl 9)))).alts_append
    (Spells.alts_ite _ fun _ => (Spells.alts_one (spells_lastDigit r 0 (r % 10) (by omega))))).congr
    fun n _ => by omega

theorem nnRange_correct {l r : Nat} {p : PR} (h : nnRange l r = .ok p) :
    Spells dec (fun _ => True) p.rx (fun n => l ≤ n ∧ n ≤ r) := by
  fun_induction nnRange l r generalizing p
  case case2 r _ _ =>
    -- `l = r`
    injection h with h; subst h
    exact (spells_litDec r).congr fun n _ => by omega
  case case3 l r hle hd hne hpre =>
    -- the same decade
    injection h with h; subst h
    exact (spells_lastDigit l (l % 10) (r % 10) (by omega)).congr fun n _ => by omega
  case case6 l r hle hd hne hpre hlt leftRec rightRec pl pr hrec inner hx parts ih =>
    -- different decades, some of them wholly inside: the edge decades, and the recursion on the decades inside
    injection h with h; subst h
    obtain ⟨hl10, hr10⟩ := two_digits_of_prefix_ne hd hpre
    have hL : ∀ q, leftRec ≤ q ↔ l ≤ 10 * q := le_leftRec l
    have hR : ∀ q, q ≤ rightRec ↔ 10 * q + 9 ≤ r := fun q => rightRec_le r q hr10
    simp only [parts, pl, pr, dite_eq_ite, List.map_append, apply_ite (List.map _), List.map_cons,
      List.map_nil]
    refine ((spells_edge_decades l r (by omega)).alts_append
      (Spells.alts_one ((ih hx).snoc_digit fun m hm => ?_))).congr fun n _ => ?_
    · have := (hL m).mp hm.1; omega
    · rw [hL, hR]; omega
  case case7 l r hle hd hne hpre hlt leftRec rightRec pl pr hrec parts =>
    -- different decades, none wholly inside: the edge decades alone
    injection h with h; subst h
    obtain ⟨hl10, hr10⟩ := two_digits_of_prefix_ne hd hpre
    simp only [parts, pl, pr, dite_eq_ite, List.map_append, apply_ite (List.map _), List.map_cons,
      List.map_nil]
    refine (spells_edge_decades l r (by omega)).congr fun n _ => and_iff_left fun ⟨h1, h2⟩ => hrec ?_
    exact Nat.le_trans ((le_leftRec l _).mpr h1) ((rightRec_le r _ hr10).mpr h2)
  case case9 l r hle hd h19 bp hbp a b hb ha iha ihb =>
    -- different numbers of digits: split at `bp = 10^d - 1`
    injection h with h; subst h
    exact ((iha ha).alts_cons (Spells.alts_one (ihb hb))).congr fun n _ => by omega
  all_goals cases h

theorem nnRange_total (l r : Nat) (hle : l ≤ r) (hr : numDigits r ≤ 18) :
    ∃ p, nnRange l r = .ok p := by
  fun_induction nnRange l r
  -- the cases named are the branches of the model that return an error
  case case1 => omega
  case case4 => omega
  case case5 l r _ hd hne hpre hlt leftRec rightRec hrec e hx ih =>
    -- the recursion on the decades inside fails
    have : numDigits rightRec ≤ 18 := by
      have : rightRec ≤ r := by simp only [rightRec]; split <;> omega
      exact Nat.le_trans (numDigits_mono this) hr
    obtain ⟨p, hp⟩ := ih hrec this
    rw [hp] at hx; cases hx
  case case8 l r _ hd h19 =>
    -- 19 digits
    have := numDigits_mono hle
    omega
  case case10 l r _ hd h19 bp hbp hx iha ihb =>
    -- one of the two halves at `bp = 10^d - 1` fails
    have h1 : numDigits bp ≤ 18 := Nat.le_trans (numDigits_mono (by omega)) hr
    obtain ⟨a, ha⟩ := iha hbp.1 h1
    obtain ⟨b, hb⟩ := ihb (by omega) hr
    exact absurd hb (fun hb => hx a b ha hb)
  case case11 l r _ hd h19 bp hbp =>
    -- `bp` is not between `l` and `r`
    have h1 := lt_pow_numDigits l
    have := numDigits_mono hle
    have h2 := (not_congr (numDigits_le_iff (n := r) (numDigits_pos l))).mp (by omega)
    exact absurd (by simp only [bp]; omega) hbp
  all_goals exact ⟨_, rfl⟩

theorem lang_bigRx (d : Nat) : Spells dec (fun _ => True) (bigRx d) (fun n => 10 ^ d ≤ n) := by
  intro w
  rw [bigRx, spells_hd 1 9 (Nat.le_refl 9) (spells_digitsGe d) w]
  constructor
  · rintro ⟨_ | ⟨a, x⟩, hx, rfl, hp⟩
    · exact hp.elim
    · obtain ⟨n, hn1, hn2⟩ := dec_append_digB x (allDig_cons.mp hx).2 a hp.1
      refine ⟨n, trivial, by rw [← hn2, dec_lt (Nat.lt_succ_of_le hp.2.1)]; rfl, ?_⟩
      have := Nat.pow_le_pow_right (by omega : 0 < 10) hp.2.2
      have := Nat.mul_le_mul_right (10 ^ x.length) hp.1
      omega
  · rintro ⟨n, -, rfl, hn⟩
    obtain ⟨a, x, h1, h2, h3, h4⟩ := dec_shape n (Nat.le_trans (Nat.pow_pos (by omega)) hn)
    refine ⟨a :: x, allDig_cons.mpr ⟨h2, h3⟩, h4, h1, h2, ?_⟩
    have hlen : numDigits n = x.length + 1 := by simp [numDigits, h4, digB]
    have := lt_pow_numDigits n
    have := (Nat.pow_lt_pow_iff_right (by omega : 1 < 10)).mp (by omega : 10 ^ d < 10 ^ numDigits n)
    omega

theorem nnGe_correct {l : Nat} {p : PR} (h : nnGe l = .ok p) :
    Spells dec (fun _ => True) p.rx (fun n => l ≤ n) := by
  revert h
  fun_cases nnGe l <;> intro h
  case case3 h19 a ha =>
    -- the numbers with as many digits as `l`, or with more
    cases h
    have hl := lt_pow_numDigits l
    exact ((nnRange_correct ha).alts_cons (Spells.alts_one (lang_bigRx _))).congr fun n _ => by omega
  all_goals cases h

theorem nnGe_total (l : Nat) (h : numDigits l ≤ 18) : ∃ p, nnGe l = .ok p := by
  unfold nnGe
  have hl := lt_pow_numDigits l
  have hd : numDigits (10 ^ numDigits l - 1) ≤ 18 :=
    Nat.le_trans ((numDigits_le_iff (numDigits_pos l)).mpr (by omega)) h
  obtain ⟨a, ha⟩ := nnRange_total l (10 ^ numDigits l - 1) (by omega) hd
  simp [show ¬ numDigits l ≥ 19 by omega, ha]

end LlgVerif
