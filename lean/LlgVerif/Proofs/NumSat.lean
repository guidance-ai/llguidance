/-
C08, emptiness of a numeric schema: `firstMult` is the least multiple of the step on the right side of
the lower bound, so some multiple lies between the bounds iff that one does.
-/
import LlgVerif.Model.NumSat
namespace LlgVerif

theorem firstMult_spec (lo : Int) (lex : Bool) (step : Int) (hs : 0 < step) :
    step ∣ firstMult lo lex step ∧
    (lo < firstMult lo lex step ∨ (lo = firstMult lo lex step ∧ lex = false)) ∧
    (∀ z, step ∣ z → (lo < z ∨ (lo = z ∧ lex = false)) → firstMult lo lex step ≤ z) := by
  have hdiv : lo / step * step + lo % step = lo := Int.ediv_mul_add_emod lo step
  have hr0 : 0 ≤ lo % step := Int.emod_nonneg lo (by omega)
  have hr1 : lo % step < step := Int.emod_lt_of_pos lo hs
  -- multiples of `step` are ordered like their quotients
  have hmul : ∀ q : Int, lo / step < q → lo / step * step + step ≤ step * q := fun q hq => by
    have := Int.mul_le_mul_of_nonneg_left (show lo / step + 1 ≤ q by omega) (Int.le_of_lt hs)
    rw [Int.mul_add, Int.mul_one, Int.mul_comm] at this
    exact this
  have hmul' : ∀ q : Int, q ≤ lo / step → step * q ≤ lo / step * step := fun q hq => by
    have := Int.mul_le_mul_of_nonneg_left hq (Int.le_of_lt hs)
    rwa [Int.mul_comm step (lo / step)] at this
  unfold firstMult
  simp only
  split
  · rename_i hc
    refine ⟨Int.dvd_add (Int.dvd_mul_left _ _) (Int.dvd_refl step), Or.inl (by omega), ?_⟩
    rintro _ ⟨q, rfl⟩ hlow
    apply hmul
    refine Int.lt_of_not_ge fun hle => ?_
    have := hmul' q hle
    rcases hc with h1 | ⟨h1, h2⟩
    · omega
    · rcases hlow with h3 | ⟨_, h4⟩
      · omega
      · rw [h2] at h4; cases h4
  · rename_i hc
    simp only [not_or, not_and, Int.not_lt, Bool.not_eq_true] at hc
    have hk : lo / step * step = lo := by omega
    exact ⟨Int.dvd_mul_left _ _, Or.inr ⟨hk.symm, hc.2 hk⟩, fun z _ hlow => by omega⟩

theorem hasMult_iff (lo : Int) (lex : Bool) (hi : Int) (hex : Bool) (step : Int) (hs : 0 < step) :
    hasMult lo lex hi hex step = true ↔
      ∃ z, step ∣ z ∧ (lo < z ∨ (lo = z ∧ lex = false)) ∧ (z < hi ∨ (z = hi ∧ hex = false)) := by
  obtain ⟨hd, hlow, hmin⟩ := firstMult_spec lo lex step hs
  unfold hasMult
  simp only [Bool.or_eq_true, decide_eq_true_eq, Bool.and_eq_true, Bool.not_eq_true']
  constructor
  · intro h
    exact ⟨firstMult lo lex step, hd, hlow, h⟩
  · rintro ⟨z, hz, hl, hu⟩
    have := hmin z hz hl
    rcases hu with hu | ⟨hu, hx⟩
    · left; omega
    · by_cases he : firstMult lo lex step = hi
      · exact Or.inr ⟨he, hx⟩
      · left; omega

theorem hasPoint_iff (lo : Int) (lex : Bool) (hi : Int) (hex : Bool) :
    hasPoint lo lex hi hex = true ↔ lo < hi ∨ (lo = hi ∧ lex = false ∧ hex = false) := by
  unfold hasPoint
  simp [Bool.or_eq_true, Bool.and_eq_true, and_assoc]

end LlgVerif
