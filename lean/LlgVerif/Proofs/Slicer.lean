/- Slicer (`Model/Slicer.lean`): the slice tree application yields exactly the allowed tokens of the slice. -/
import LlgVerif.Model.Slicer
namespace LlgVerif
namespace Slice

/-- children's masks are contained in the parent's, recursively -/
inductive WFS : Slice → Prop where
  | mk (i : Nat) (m : List Nat) (kids : List Slice)
      (hsub : ∀ c ∈ kids, ∀ t ∈ c.mask, t ∈ m) (hk : ∀ c ∈ kids, WFS c) : WFS (node i m kids)

/-- every matched node of the subtree holds only allowed tokens (`slice_sound`) -/
inductive Sound (mtch : Nat → Bool) (allowed : Nat → Bool) : Slice → Prop where
  | mk (i : Nat) (m : List Nat) (kids : List Slice)
      (hm : mtch i = true → ∀ t ∈ m, allowed t = true)
      (hk : ∀ c ∈ kids, Sound mtch allowed c) : Sound mtch allowed (node i m kids)

def AppliedMem : List Slice → List Bool → Nat → Prop
  | c :: cs, f :: fs, t => (f = true ∧ t ∈ c.mask) ∨ AppliedMem cs fs t
  | _, _, _ => False

def UnappliedMem : List Slice → List Bool → Nat → Prop
  | c :: cs, f :: fs, t => (f = false ∧ t ∈ c.mask) ∨ UnappliedMem cs fs t
  | _, _, _ => False

theorem mem_walk (allowed : Nat → Bool) (xs acc : List Nat) (t : Nat) :
    t ∈ walk allowed xs acc ↔ t ∈ acc ∨ (t ∈ xs ∧ allowed t = true) := by
  simp [walk, List.mem_filter]

theorem mem_diff (a b : List Nat) (t : Nat) : t ∈ diff a b ↔ t ∈ a ∧ t ∉ b := by
  simp [diff, List.mem_filter]

theorem anyMem_split (kids : List Slice) (flags : List Bool) (h : flags.length = kids.length) (t : Nat) :
    (∃ c ∈ kids, t ∈ c.mask) ↔ AppliedMem kids flags t ∨ UnappliedMem kids flags t := by
  induction kids generalizing flags with
  | nil => cases flags <;> simp [AppliedMem, UnappliedMem]
  | cons c cs ih =>
    cases flags with
    | nil => simp at h
    | cons f fs =>
      simp only [List.length_cons, Nat.add_right_cancel_iff] at h
      simp only [List.mem_cons, exists_eq_or_imp, AppliedMem, UnappliedMem, ih fs h]
      cases f <;> simp [or_assoc, or_left_comm]

theorem mem_walkUnapplied (allowed : Nat → Bool) (kids : List Slice) (flags : List Bool) (acc : List Nat) (t : Nat) :
    t ∈ walkUnapplied allowed kids flags acc ↔ t ∈ acc ∨ (UnappliedMem kids flags t ∧ allowed t = true) := by
  fun_induction walkUnapplied allowed kids flags acc with
  | case1 c cs f fs acc ih =>
    simp only [ih, UnappliedMem]
    cases f <;> simp [mem_walk, or_assoc, or_and_right]
  | case2 => simp [UnappliedMem]

theorem not_appliedMem_of_all_false (kids : List Slice) (flags : List Bool)
    (h : true ∉ flags) (t : Nat) : ¬ AppliedMem kids flags t := by
  fun_induction AppliedMem kids flags t with
  | case1 c cs f fs t ih =>
    rintro (⟨rfl, _⟩ | h')
    · exact h List.mem_cons_self
    · exact ih (List.not_mem_of_not_mem_cons h) h'
  | case2 => exact id

theorem appliedMem_single (kids : List Slice) (flags : List Bool) (h1 : flags.count true = 1) (t : Nat) :
    AppliedMem kids flags t ↔ t ∈ ((kids[flags.idxOf true]?).map Slice.mask |>.getD []) := by
  induction kids generalizing flags with
  | nil => cases flags <;> simp [AppliedMem]
  | cons c cs ih =>
    cases flags with
    | nil => cases h1
    | cons f fs =>
      cases f with
      | true =>
        have h0 : fs.count true = 0 := by simpa [List.count_cons] using h1
        have hno := not_appliedMem_of_all_false cs fs (List.count_eq_zero.mp h0) t
        simp [AppliedMem, hno]
      | false =>
        have h1' : fs.count true = 1 := by simpa [List.count_cons] using h1
        simp [AppliedMem, ih fs h1', List.idxOf_cons]

/-- what the applied children hold together with the rest of the mask `M` is `M`
(`A → M`: children's masks lie in the parent's) -/
theorem applied_or_rest {A M : Prop} (h : A → M) : A ∨ (M ∧ ¬ A) ↔ M :=
  ⟨fun h' => h'.elim h And.left, fun hm => (Classical.em A).imp_right fun hA => ⟨hm, hA⟩⟩

mutual
theorem apply_spec (mtch allowed : Nat → Bool) (s : Slice) (acc : List Nat)
    (hwf : WFS s) (hs : Sound mtch allowed s) (t : Nat) :
    t ∈ (apply mtch allowed s acc).2 ↔
      t ∈ acc ∨ ((apply mtch allowed s acc).1 = true ∧ t ∈ s.mask ∧ allowed t = true) := by
  match s, hwf, hs with
  | node i m kids, WFS.mk _ _ _ hsub hkw, Sound.mk _ _ _ hm hks =>
    unfold apply
    by_cases hmi : mtch i = true
    · simp only [hmi, ↓reduceIte, List.mem_append, Slice.mask, true_and]
      exact or_congr_right ⟨fun h => ⟨h, hm hmi t h⟩, And.left⟩
    · simp only [hmi, Bool.false_eq_true, ↓reduceIte, Slice.mask]
      obtain ⟨hlen, hk⟩ := applyKids_spec mtch allowed kids acc hkw hks t
      have hsplit := anyMem_split kids (applyKids mtch allowed kids acc).2 hlen t
      have hsub' : (∃ c ∈ kids, t ∈ c.mask) → t ∈ m := fun ⟨c, hc, htc⟩ => hsub c hc t htc
      split
      · -- no child applied
        rename_i hall
        have hno := not_appliedMem_of_all_false kids _
          (fun hm => Bool.false_ne_true (List.all_eq_true.mp hall _ hm)) t
        simp only [hk, hno, false_and, or_false, Bool.false_eq_true]
      · split
        · -- exactly one child applied
          rename_i _ hone
          simp only [mem_walk, mem_diff, hk, true_and, ← appliedMem_single kids _ hone t,
            or_assoc, ← or_and_right]
          rw [applied_or_rest fun ha => hsub' (hsplit.mpr (.inl ha))]
        · -- several children applied
          simp only [mem_walk, mem_diff, mem_walkUnapplied, hk, true_and, List.mem_flatMap,
            or_assoc, ← or_and_right, ← hsplit]
          rw [applied_or_rest hsub']
theorem applyKids_spec (mtch allowed : Nat → Bool) (kids : List Slice) (acc : List Nat)
    (hwf : ∀ c ∈ kids, WFS c) (hs : ∀ c ∈ kids, Sound mtch allowed c) (t : Nat) :
    (applyKids mtch allowed kids acc).2.length = kids.length ∧
    (t ∈ (applyKids mtch allowed kids acc).1 ↔
      t ∈ acc ∨ (AppliedMem kids (applyKids mtch allowed kids acc).2 t ∧ allowed t = true)) := by
  match kids with
  | [] => simp [applyKids, AppliedMem]
  | c :: cs =>
    have hc := apply_spec mtch allowed c acc (hwf c List.mem_cons_self) (hs c List.mem_cons_self) t
    obtain ⟨hl, hr⟩ := applyKids_spec mtch allowed cs (apply mtch allowed c acc).2
      (fun x hx => hwf x (List.mem_cons_of_mem _ hx)) (fun x hx => hs x (List.mem_cons_of_mem _ hx)) t
    refine ⟨by simp [applyKids, hl], ?_⟩
    simp only [applyKids, AppliedMem, hr, hc, or_assoc, or_and_right, and_assoc]
end

end Slice
end LlgVerif
