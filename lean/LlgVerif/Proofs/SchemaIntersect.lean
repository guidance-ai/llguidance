/-
`intersect` means conjunction on the `oneOf`-free fragment.  What it does is read off its definition once,
by the class of its operands; only the six pairs of basic nodes of one kind carry an argument of their own.
The one hypothesis, on how `multipleOf` values are combined, is discharged at the end for `Dec.checkedLcm`.
-/
import LlgVerif.Proofs.SchemaObj
import LlgVerif.Proofs.DecLcm
namespace LlgVerif
namespace Sch
open Js

theorem intersect_any_left (lcm : Dec → Dec → Option Dec) (f : Nat) (b : Sch) :
    intersect lcm (f + 1) .any b = some (normalize b) := rfl

theorem intersect_any_right (lcm : Dec → Dec → Option Dec) (f : Nat) (a : Sch) :
    intersect lcm (f + 1) a .any = some (normalize a) := by
  cases a <;> rfl

theorem intersect_unsat_left (lcm : Dec → Dec → Option Dec) (f : Nat) (b : Sch) :
    intersect lcm (f + 1) .unsat b = some .unsat := by
  cases b <;> rfl

theorem intersect_unsat_right (lcm : Dec → Dec → Option Dec) (f : Nat) (a : Sch) :
    intersect lcm (f + 1) a .unsat = some .unsat := by
  cases a <;> rfl

/-- `b` is none of `any`, `unsat`, `oneOf` (tags 0, 1, 8) -/
theorem intersect_anyOf_left (lcm : Dec → Dec → Option Dec) (f : Nat) (opts : SchL) (b : Sch)
    (hb : (b.tag != 0 && b.tag != 1 && b.tag != 8) = true) :
    intersect lcm (f + 1) (.anyOf opts) b =
      ((opts.mapM (fun o => intersect lcm f o b)).map .anyOf).map normalize := by
  cases b <;> first | rfl | exact Bool.noConfusion hb

theorem intersect_basic_anyOf (lcm : Dec → Dec → Option Dec) (f : Nat) (a : Sch) (opts : SchL)
    (ha : a.basic = true) :
    intersect lcm (f + 1) a (.anyOf opts) =
      ((opts.mapM (fun o => intersect lcm f a o)).map .anyOf).map normalize := by
  cases a <;> first | rfl | exact Bool.noConfusion ha

theorem intersect_basic_ne (lcm : Dec → Dec → Option Dec) (f : Nat) (a b : Sch)
    (ha : a.basic = true) (hb : b.basic = true) (hab : (a.tag != b.tag) = true) :
    intersect lcm (f + 1) a b = some .unsat := by
  cases a <;> first | exact Bool.noConfusion ha | (cases b <;> first | rfl | exact Bool.noConfusion hb | exact Bool.noConfusion hab)

/-- `items` / `additionalProperties` of a result as the pair (left out, node): left out where both sides
leave it out, else the one there is, or the intersection of the two -/
def rest (g : Sch → Sch → Option Sch) (n1 n2 : Bool) (i1 i2 : Sch) : Option (Bool × Sch) :=
  match n1, n2 with
  | true, true => some (true, .any)
  | true, false => some (false, i2)
  | false, true => some (false, i1)
  | false, false => (g i1 i2).map (fun x => (false, x))

theorem intersect_array (lcm : Dec → Dec → Option Dec) (f : Nat) (l1 l2 : Nat) (h1 h2 : Option Nat) (p1 p2 : SchL)
    (n1 n2 : Bool) (i1 i2 : Sch) :
    intersect lcm (f + 1) (.array l1 h1 p1 n1 i1) (.array l2 h2 p2 n2 i2) =
      ((SchL.zipM (intersect lcm f) (p1.pad i1 (max p1.len p2.len - p1.len))
          (p2.pad i2 (max p1.len p2.len - p2.len))).bind fun pre =>
        (rest (intersect lcm f) n1 n2 i1 i2).map fun r =>
          .array (max l1 l2) (optMinNat h1 h2) pre r.1 r.2).map normalize := by
  simp only [intersect]
  cases SchL.zipM (intersect lcm f) (p1.pad i1 (max p1.len p2.len - p1.len)) (p2.pad i2 (max p1.len p2.len - p2.len))
  · rfl
  · cases n1 <;> cases n2 <;> first | rfl | (simp only [rest, Option.bind_some, Option.map_map]; rfl)

variable {ρ : String → String → Bool} {isMult : Dec → Num → Bool}
  {lcm : Dec → Dec → Option Dec} {f : Nat}

theorem meet_normalize {a b c : Sch} (h : Meet ρ isMult a b c) : Meet ρ isMult a b (normalize c) :=
  have hn := normalize_sat c h.ok
  ⟨hn.1, fun v => (hn.2 v).trans (h.sat_eq v)⟩

theorem meet_comm {a b c : Sch} (h : Meet ρ isMult a b c) : Meet ρ isMult b a c :=
  ⟨h.ok, fun v => (h.sat_eq v).trans (Bool.and_comm ..)⟩

theorem good_any_right (a : Sch) :
    GoodAt ρ isMult (intersect lcm (f + 1)) a .any := fun c h ha _ => by
  cases (intersect_any_right lcm f a).symm.trans h
  exact meet_normalize ⟨ha, fun v => (Bool.and_true _).symm⟩

theorem good_unsat_right (a : Sch) :
    GoodAt ρ isMult (intersect lcm (f + 1)) a .unsat := fun c h _ _ => by
  cases (intersect_unsat_right lcm f a).symm.trans h
  exact ⟨rfl, fun v => (Bool.and_false _).symm⟩

theorem meet_anyOf_left {g : Sch → Sch → Option Sch} (ih : Good ρ isMult g) {opts : SchL} {b c : Sch}
    (h : ((opts.mapM (fun o => g o b)).map .anyOf).map normalize = some c) (ha : OkL opts = true) (hb : Ok b = true) :
    Meet ρ isMult (.anyOf opts) b c := by
  simp only [Option.map_eq_some_iff] at h
  obtain ⟨_, ⟨l, hl, rfl⟩, rfl⟩ := h
  exact meet_normalize (mapM_sat _ b (fun o c hc ho => ih hc ho hb) opts l hl ha)

theorem meet_anyOf_right {g : Sch → Sch → Option Sch} (ih : Good ρ isMult g) {opts : SchL} {a c : Sch}
    (h : ((opts.mapM (fun o => g a o)).map .anyOf).map normalize = some c) (ha : Ok a = true) (hb : OkL opts = true) :
    Meet ρ isMult a (.anyOf opts) c :=
  meet_comm (meet_anyOf_left (g := fun x y => g y x)
    (fun _ _ _ hc hx hy => meet_comm (ih hc hy hx)) h hb ha)

/-- a basic node on the left: every right operand that is not of its kind -/
theorem good_basic_row (ih : Good ρ isMult (intersect lcm f))
    {a : Sch} (hk : a.basic = true) (same : ∀ b, (a.tag != b.tag) = false → GoodAt ρ isMult (intersect lcm (f + 1)) a b)
    (b : Sch) : GoodAt ρ isMult (intersect lcm (f + 1)) a b := by
  intro c h ha hb
  cases ht : a.tag != b.tag
  · exact same b ht h ha hb
  · cases b with
    | any => exact good_any_right a h ha hb
    | unsat => exact good_unsat_right a h ha hb
    | oneOf l => exact Bool.noConfusion hb
    | anyOf opts => exact meet_anyOf_right ih ((intersect_basic_anyOf lcm f a opts hk).symm.trans h) ha hb
    | _ =>
      cases (intersect_basic_ne lcm f a _ hk rfl ht).symm.trans h
      exact ⟨rfl, fun v => .symm <| Bool.and_eq_false_imp.mpr fun h1 => Bool.eq_false_iff.mpr (tag_ne_sat ht hk rfl v h1)⟩

/-- a finite table: three constants on either side, and the two Boolean values -/
theorem intersectBool_sat (v1 v2 : Option Bool) : Meet ρ isMult (.boolean v1) (.boolean v2) (intersectBool v1 v2) := by
  rcases v1 with _ | _ | _ <;> rcases v2 with _ | _ | _ <;>
    exact ⟨rfl, fun v => by cases v <;> first | rfl | (rename_i c; cases c <;> rfl)⟩

theorem intersectRx_sat (r1 r2 : Option RxT) (s : String) :
    optAll (intersectRx r1 r2) (fun r => satRx ρ r s) =
      (optAll r1 (fun r => satRx ρ r s) && optAll r2 (fun r => satRx ρ r s)) := by
  cases r1 <;> cases r2 <;> first | rfl | exact (Bool.and_true _).symm

theorem meet_rest {g : Sch → Sch → Option Sch} (ih : Good ρ isMult g) {n1 n2 : Bool} {i1 i2 : Sch}
    {r : Bool × Sch} (hr : rest g n1 n2 i1 i2 = some r)
    (h1 : Ok i1 = true) (h2 : Ok i2 = true) (hf1 : (!n1 || isAny i1) = true) (hf2 : (!n2 || isAny i2) = true) :
    Meet ρ isMult i1 i2 r.2 ∧ (!r.1 || isAny r.2) = true := by
  cases n1 <;> cases n2
  · obtain ⟨it, hit, rfl⟩ := Option.map_eq_some_iff.mp hr
    exact ⟨ih hit h1 h2, rfl⟩
  · cases hr
    exact ⟨⟨h1, fun v => by rw [isAny_sat hf2 v, Bool.and_true]⟩, rfl⟩
  · cases hr
    exact ⟨⟨h2, fun v => by rw [isAny_sat hf1 v, Bool.true_and]⟩, rfl⟩
  · cases hr
    exact ⟨⟨rfl, fun v => by rw [isAny_sat hf1 v, isAny_sat hf2 v]; rfl⟩, rfl⟩

/-- the hypothesis on the `lcm` parameter of `intersect` -/
def LcmOK (lcm : Dec → Dec → Option Dec) (isMult : Dec → Num → Bool) : Prop :=
  ∀ a b d, lcm a b = some d → ∀ x, isMult d x = (isMult a x && isMult b x)

theorem intersectNum_sat (lcm : Dec → Dec → Option Dec) (isMult : Dec → Num → Bool) (hl : LcmOK lcm isMult)
    (n1 n2 n : NumS) (h : intersectNum lcm n1 n2 = some n) (x : Num) :
    satNum isMult n x = (satNum isMult n1 x && satNum isMult n2 x) := by
  obtain ⟨mo, hmo, rfl⟩ := Option.map_eq_some_iff.mp h
  have hm : optAll mo (fun m => isMult m x) =
      (optAll n1.multipleOf (fun m => isMult m x) && optAll n2.multipleOf (fun m => isMult m x)) := by
    generalize n1.multipleOf = o1, n2.multipleOf = o2 at hmo
    cases o1 <;> cases o2
    · cases hmo; rfl
    · cases hmo; rfl
    · cases hmo; exact (Bool.and_true _).symm
    · obtain ⟨d, hd, rfl⟩ := Option.map_eq_some_iff.mp hmo
      exact hl _ _ d hd x
  simp only [satNum, optMaxN_eq, optMinN_eq, hm, Bool.not_or, Bool.or_and_distrib_right,    -- `integer`
    optAll_optPick (fun a b => le_total b a) (fun a b h => le_trans b a x h),         -- `minimum`
    optAll_optPick (fun a b => le_total b a) (fun a b h => lt_of_le_of_lt b a x h),   -- `exclusiveMinimum`
    optAll_optPick le_total (fun a b h h' => le_trans x a b h' h),                    -- `maximum`
    optAll_optPick le_total (fun a b h h' => lt_of_lt_of_le x a b h' h)]              -- `exclusiveMaximum`
  ac_rfl

theorem good_number (hl : LcmOK lcm isMult) {n1 n2 : NumS} :
    GoodAt ρ isMult (intersect lcm (f + 1)) (.number n1) (.number n2) := by
  intro c h _ _
  obtain ⟨_, hcore, rfl⟩ := Option.map_eq_some_iff.mp h
  obtain ⟨n, hn, rfl⟩ := Option.map_eq_some_iff.mp hcore
  refine meet_normalize ⟨rfl, fun v => ?_⟩
  cases v <;> try rfl
  exact intersectNum_sat lcm isMult hl n1 n2 n hn _

theorem good_string {l1 l2 : Nat} {h1 h2 : Option Nat} {r1 r2 : Option RxT} :
    GoodAt ρ isMult (intersect lcm (f + 1)) (.string l1 h1 r1) (.string l2 h2 r2) := by
  intro c h _ _
  cases h
  refine meet_normalize ⟨rfl, fun v => ?_⟩
  cases v <;> try rfl
  simp only [sat, optMinNat_le, decide_max_le, intersectRx_sat]
  ac_rfl

theorem good_array (ih : Good ρ isMult (intersect lcm f)) {l1 l2 : Nat} {h1 h2 : Option Nat} {p1 p2 : SchL}
    {n1 n2 : Bool} {i1 i2 : Sch} :
    GoodAt ρ isMult (intersect lcm (f + 1)) (.array l1 h1 p1 n1 i1) (.array l2 h2 p2 n2 i2) := by
  intro c h ha hb
  rw [intersect_array] at h
  obtain ⟨core, hcore, rfl⟩ := Option.map_eq_some_iff.mp h
  obtain ⟨pre, hz, hcore⟩ := Option.bind_eq_some_iff.mp hcore
  obtain ⟨r, hr, rfl⟩ := Option.map_eq_some_iff.mp hcore
  obtain ⟨hp1, hi1, hf1⟩ := ok_array_iff.mp ha
  obtain ⟨hp2, hi2, hf2⟩ := ok_array_iff.mp hb
  obtain ⟨hit, hitfl⟩ := meet_rest ih hr hi1 hi2 hf1 hf2
  obtain ⟨hpre, hsat⟩ := zipM_sat (intersect lcm f) ih (sat ρ isMult i1) (sat ρ isMult i2)
    _ _ pre hz (by rw [pad_len, pad_len]; omega) (OkL_pad _ _ _ hp1 hi1) (OkL_pad _ _ _ hp2 hi2)
  refine meet_normalize ⟨ok_array_iff.mpr ⟨hpre, hit.ok, hitfl⟩, fun v => ?_⟩
  cases v <;> try rfl
  simp only [sat, optMinNat_le, decide_max_le, funext hit.sat_eq, hsat, satPre_pad]
  ac_rfl

theorem good_object (ih : Good ρ isMult (intersect lcm f)) {p1 p2 : SchKL} {n1 n2 : Bool} {a1 a2 : Sch}
    {r1 r2 : List String} {lo1 lo2 : Nat} {hi1 hi2 : Option Nat} :
    GoodAt ρ isMult (intersect lcm (f + 1)) (.object p1 n1 a1 r1 lo1 hi1) (.object p2 n2 a2 r2 lo2 hi2) := by
  intro c h ha hb
  obtain ⟨core, hcore, rfl⟩ := Option.map_eq_some_iff.mp h
  refine meet_normalize ?_
  obtain ⟨hp1, ha1, hf1, hnd1⟩ := ok_object_iff.mp ha
  obtain ⟨hp2, ha2, hf2, hnd2⟩ := ok_object_iff.mp hb
  dsimp only at hcore
  split at hcore
  next q1 q2 hq1 hq2 =>
    obtain ⟨apr, hapr, rfl⟩ := Option.map_eq_some_iff.mp hcore
    obtain ⟨hit, hitfl⟩ := meet_rest ih hapr ha1 ha2 hf1 hf2
    obtain ⟨hqok, hq⟩ := props_meet ih hp1 ha1 hp2 ha2 hq1 hq2 hit
    have hreq := nodup_union r1 r2 hnd1 hnd2
    refine meet_mkObject hreq ⟨ok_object_iff.mpr ⟨hqok, hit.ok, hitfl, hreq⟩, fun v => ?_⟩
    cases v <;> try rfl
    simp only [sat, ← propSchema_sat, all_union, optMinNat_le, decide_max_le, fun key => (hq key).sat_eq, all_and]
    ac_rfl
  next => cases hcore

theorem good_same (hl : LcmOK lcm isMult) (ih : Good ρ isMult (intersect lcm f)) {a : Sch} (hk : a.basic = true)
    (b : Sch) (ht : (a.tag != b.tag) = false) : GoodAt ρ isMult (intersect lcm (f + 1)) a b := by
  cases a <;> first | exact Bool.noConfusion hk | (cases b <;> first | exact Bool.noConfusion ht | skip)
  case null.null => exact fun c h _ _ => by cases h; exact ⟨rfl, fun v => (Bool.and_self _).symm⟩
  case boolean.boolean => exact fun c h _ _ => by cases h; exact meet_normalize (intersectBool_sat _ _)
  case number.number => exact good_number hl
  case string.string => exact good_string
  case array.array => exact good_array ih
  case object.object => exact good_object ih

theorem intersect_good (hl : LcmOK lcm isMult) : ∀ f, Good ρ isMult (intersect lcm f)
  | 0 => fun _ _ _ h => nomatch h
  | f + 1 => fun a b c h ha hb => by
    have ih := intersect_good hl f
    cases a with
    | any => cases (intersect_any_left lcm f b).symm.trans h; exact meet_normalize ⟨hb, fun v => rfl⟩
    | unsat => cases (intersect_unsat_left lcm f b).symm.trans h; exact ⟨rfl, fun v => rfl⟩
    | oneOf l => exact Bool.noConfusion ha
    | anyOf opts =>
      cases b with
      | any => exact good_any_right _ h ha hb
      | unsat => exact good_unsat_right _ h ha hb
      | oneOf l => exact Bool.noConfusion hb
      | _ => exact meet_anyOf_left ih ((intersect_anyOf_left lcm f opts _ rfl).symm.trans h) ha hb
    | _ => exact good_basic_row ih rfl (good_same hl ih rfl) b h ha hb

theorem p10_ne (k : Nat) : ((10 : Int) ^ k) ≠ 0 := Int.ne_of_gt (pow10_pos k)

/-- the scaled instance: `x · 10^(t + E)` with `t = (-x.exp).toNat` -/
def scaledY (x : Num) (E : Nat) : Int :=
  x.signed * (10 : Int) ^ (x.exp + ((-x.exp).toNat : Int)).toNat * (10 : Int) ^ E

theorem isMultDec_at (m : Dec) (x : Num) (E : Nat) (hE : m.exp ≤ E) :
    isMultDec m x = true ↔ m.coef * 10 ^ (E - m.exp) * 10 ^ (-x.exp).toNat ∣ (scaledY x E).natAbs := by
  rw [← Int.natCast_dvd_natCast, Int.dvd_natAbs]
  unfold isMultDec scaledY
  simp only [decide_eq_true_eq]
  rw [← Int.dvd_iff_emod_eq_zero, show E = m.exp + (E - m.exp) by omega, Int.pow_add, Nat.add_sub_cancel_left,
    ← Int.mul_assoc (x.signed * _) _ _]
  rw [Int.natCast_mul, Int.natCast_mul, Int.natCast_pow, Int.natCast_pow, Int.mul_right_comm (m.coef : Int)]
  exact (Int.mul_dvd_mul_iff_right (p10_ne (E - m.exp))).symm

theorem isMultDec_coef_zero (m : Dec) (x : Num) (hm : m.coef = 0) : isMultDec m x = decide (x.signed = 0) := by
  simp only [isMultDec, hm, Int.natCast_zero, Int.zero_mul, Int.emod_zero, Int.mul_eq_zero, p10_ne, or_false]

theorem isMultDec_signed_zero (m : Dec) (x : Num) (h0 : x.signed = 0) : isMultDec m x = true := by
  simp only [isMultDec, h0, Int.zero_mul, Int.zero_emod, decide_true]

theorem lcmOK_checked : LcmOK Dec.checkedLcm isMultDec := by
  intro a b d h x
  by_cases hz : a.coef = 0 ∨ b.coef = 0
  · -- a zero operand: the result is zero
    cases (show Dec.checkedLcm a b = some ⟨0, 0⟩ by simp only [Dec.checkedLcm, hz, ↓reduceIte]; rfl).symm.trans h
    by_cases h0 : x.signed = 0
    · simp only [isMultDec_signed_zero _ x h0, Bool.and_self]
    · rcases hz with hz | hz <;> simp only [isMultDec_coef_zero _ x hz, isMultDec_coef_zero ⟨0, 0⟩ x rfl, h0, decide_false,
        Bool.false_and, Bool.and_false]
  · obtain ⟨_, _, _, hdE, hdv, _⟩ := lcm_no_overflow_or_error a b d (fun h0 => hz (.inl h0)) (fun h0 => hz (.inr h0)) h
    rw [Bool.eq_iff_iff, Bool.and_eq_true, isMultDec_at d x _ hdE, isMultDec_at a x _ (Nat.le_max_left ..),
      isMultDec_at b x _ (Nat.le_max_right ..), hdv, ← Nat.lcm_mul_right, Nat.lcm_dvd_iff]

end Sch
end LlgVerif
