/- `allow_range` sets exactly the bits of the inclusive range (M1). -/
import LlgVerif.Proofs.SvobOps
namespace LlgVerif
namespace Svob

theorem get_fill (p : Nat → Prop) [DecidablePred p] (d : List Word) (n j : Nat) :
    get ⟨mapIdxAux (fun k w => if p k then BitVec.allOnes 32 else w) 0 d, n⟩ j =
      (get ⟨d, n⟩ j || (decide (p (j / 32)) && decide (j / 32 < d.length))) := by
  rw [get_mapIdxAux]
  by_cases hl : j / 32 < d.length
  · by_cases hp : p (j / 32)
    · simp only [hl, hp, ↓reduceIte, BitVec.getLsbD_allOnes, mod32_lt, decide_true, Bool.and_self,
        Bool.or_true]
    · simp only [hl, hp, ↓reduceIte, decide_true, decide_false, Bool.true_and, Bool.false_and,
        Bool.or_false, get]
  · simp only [hl, decide_false, Bool.false_and, Bool.and_false, Bool.or_false,
      get_of_le ⟨d, n⟩ j (Nat.le_of_not_lt hl)]

theorem allowRange?_eq_some {v r : Svob} {s e : Nat} (h : v.allowRange? s e = some r) :
    e < v.size ∧ (¬ s > e → e / 32 < v.data.length) ∧
    r = if s > e then v else
      let sm : Word := (BitVec.allOnes 32) <<< (s % 32)
      let em : Word := (BitVec.allOnes 32) >>> (31 - e % 32)
      if s / 32 = e / 32 then { v with data := v.data.set (s / 32) (v.wordAt (s / 32) ||| (sm &&& em)) }
      else
        let d2 := mapIdxAux (fun k w => if s / 32 < k ∧ k < e / 32 then BitVec.allOnes 32 else w) 0
          (v.data.set (s / 32) (v.wordAt (s / 32) ||| sm))
        { v with data := d2.set (e / 32) (((d2[e / 32]?).getD 0) ||| em) } := by
  rw [allowRange?, Option.ite_none_left_eq_some, Decidable.not_not] at h
  obtain ⟨he, h⟩ := h
  refine ⟨he, ?_⟩
  by_cases hse : s > e
  · rw [if_pos hse] at h ⊢
    exact ⟨absurd hse, (Option.some.inj h).symm⟩
  · rw [if_neg hse] at h ⊢
    obtain ⟨hew, h⟩ := Option.ite_none_right_eq_some.mp h
    exact ⟨fun _ => hew, (Option.some.inj ((apply_ite some ..).trans h)).symm⟩

theorem le_iff_word_bit (a b : Nat) : a ≤ b ↔ a / 32 < b / 32 ∨ (a / 32 = b / 32 ∧ a % 32 ≤ b % 32) := by
  omega

/- Each of the three storage updates ors a mask into the words it touches (`get_set_or`, `get_fill`);
   what is left is that bit `j` is in one of the masks iff `s ≤ j ≤ e`: linear arithmetic on `j / 32`
   and `j % 32`. -/
theorem allowRange?_spec {v r : Svob} {s e : Nat} (h : v.allowRange? s e = some r) :
    r.size = v.size ∧ r.data.length = v.data.length ∧ e < v.size ∧
    ∀ j, r.get j = (v.get j || (decide (s ≤ j) && decide (j ≤ e))) := by
  obtain ⟨he, hew, rfl⟩ := allowRange?_eq_some h
  by_cases hse : s > e
  · rw [if_pos hse]
    refine ⟨rfl, rfl, he, fun j => ?_⟩
    have : ¬ (s ≤ j ∧ j ≤ e) := by omega
    simp only [← Bool.decide_and, this, decide_false, Bool.or_false]
  rw [if_neg hse]
  replace hew := hew hse
  have heb := mod32_lt e
  -- from here on, indices are compared as (word, bit) pairs and `omega` sees words and bits as variables
  simp only [Nat.not_lt, le_iff_word_bit s, le_iff_word_bit _ e] at hse ⊢
  generalize s / 32 = sw, s % 32 = sb, e / 32 = ew, e % 32 = eb at *
  rcases hse with hlt | ⟨rfl, -⟩
  · rw [if_neg (Nat.ne_of_lt hlt)]
    refine ⟨rfl, by simp only [List.length_set, length_mapIdxAux], he, fun j => ?_⟩
    rw [wordAt, get_set_or, get_fill, get_set_or, Bool.or_assoc, Bool.or_assoc]
    congr 1
    rw [Bool.eq_iff_iff]
    simp only [length_mapIdxAux, List.length_set, getLsbD_startMask _ _ (mod32_lt j),
      getLsbD_endMask _ _ heb, Bool.or_eq_true, Bool.and_eq_true, decide_eq_true_eq]
    generalize j / 32 = jw, j % 32 = jb
    omega
  · rw [if_pos rfl]
    refine ⟨rfl, List.length_set, he, fun j => ?_⟩
    rw [wordAt, get_set_or]
    congr 1
    rw [Bool.eq_iff_iff]
    simp only [BitVec.getLsbD_and, getLsbD_startMask _ _ (mod32_lt j), getLsbD_endMask _ _ heb,
      Bool.and_eq_true, decide_eq_true_eq]
    generalize j / 32 = jw, j % 32 = jb
    omega

theorem allowRange?_isSome (v : Svob) (hwf : v.WF) (s e : Nat) :
    (v.allowRange? s e).isSome ↔ e < v.size := by
  unfold WF at hwf
  by_cases he : e < v.size
  · have hew : e / 32 < v.data.length := by omega
    simp only [allowRange?, he, hew, not_true_eq_false, ↓reduceIte, iff_true]
    split
    · rfl
    · split <;> rfl
  · simp only [allowRange?, he, not_false_eq_true, ↓reduceIte, Option.isSome_none,
      Bool.false_eq_true]

end Svob
end LlgVerif
