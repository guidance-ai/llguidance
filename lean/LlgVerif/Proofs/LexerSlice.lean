/-
The byte-level engine M5 in a lexer state without lazy lexemes: every non-empty string that keeps one
entry of the state live is accepted byte by byte (`run_of_live`).  With a containment certificate for
that entry (`Dfa.contain_live`) this is the slicer's hypothesis for a matched slice
(`c10_matched_slice_tokens_accepted`).
-/
import LlgVerif.Proofs.Lexer
namespace LlgVerif

namespace Lx
open Dfa   -- for `next`, `Good`; `run` alone is `Lx.run` here, the automaton's is written `Dfa.run`

/-- no entry is a lazy lexeme: the precondition `subsume_possible` of the slicer -/
def NoLazy (C : Cfg) (s : LState) : Prop := ∀ e ∈ s, (C.lx e.1).isLazy = false

theorem step_nolazy (C : Cfg) (s : LState) (b : B) (h : NoLazy C s) : NoLazy C (step C s b) := by
  intro e he
  obtain ⟨q, hm, _⟩ := mem_step.mp he
  exact h (e.1, q) hm

theorem lowest_nolazy (C : Cfg) (s : LState) (h : NoLazy C s) :
    lowest C s = if allEoi C s then possible s else [] :=
  (lowest_eq rfl).trans (if_pos (List.filter_eq_nil_iff.mpr fun e he => by simp [h e he]))

/-- `advance` without a transition byte succeeds when the set holds a lexeme the lexer was allowed: a
set with a skip lexeme always scans; otherwise the lexeme is one the last row asks for -/
theorem advance_isSome (C : Cfg) (hskip : ∀ k, C.skipId = some k → (C.lx k).skip = true) (st : St)
    (S : List Nat) (l : Nat) (hl : l ∈ S)
    (hal : l ∈ Ey.allowedLexemes C.g (lastRow st.rows) ∨ some l = C.skipId) (fuel : Nat) :
    (advance C st S none (fuel + 1)).isSome = true := by
  rw [advance_none, Option.isSome_map]
  cases hfind : S.find? (fun l => (C.lx l).skip) with
  | some k => rw [scanSet_skip hfind]; rfl
  | none =>
    have hrow : l ∈ Ey.allowedLexemes C.g (lastRow st.rows) :=
      hal.resolve_right fun h => by
        have := List.find?_eq_none.mp hfind l hl
        simp [hskip l h.symm] at this
    rw [lastRow] at hrow
    have hne := Ey.nextRow_ne C.g st.rows S l hl hrow
    simp [scanSet_scan hfind, hne]

theorem not_allEoi_of_live_next {C : Cfg} {s : LState} {l q : Nat} {b : B} (hm : (l, q) ∈ s)
    (hl : (C.lx l).dfa.live[next (C.lx l).dfa q b]! = true) : ¬ allEoi C s = true := by
  intro hall
  have := ((allEoi_iff.mp hall).2 _ hm).2 b
  rw [liveAt, hl] at this
  cases this

/-- what `run_of_live` needs of a state besides the entry it follows: no lazy lexeme, and what
`state_entries_allowed` says of a reachable state; kept while the lexeme goes on -/
structure Steady (C : Cfg) (st : St) : Prop where
  nolazy : NoLazy C st.ls
  allowed : ∀ e ∈ st.ls, e.1 ∈ Ey.allowedLexemes C.g (lastRow st.rows) ∨ some e.1 = C.skipId

theorem Steady.goes_on {C : Cfg} {st : St} (h : Steady C st) (b : B) :
    Steady C { st with ls := step C st.ls b, pending := true } :=
  ⟨step_nolazy C st.ls b h.nolazy, fun e he => by
    obtain ⟨q, hm, _⟩ := mem_step.mp he
    exact h.allowed (e.1, q) hm⟩

/-- `push` in a steady state when the vector lives: the lexeme ends only if all entries are at their end -/
theorem push_steady {C : Cfg} {st : St} (hs : Steady C st) {b : B} {e : Nat × Nat} (he : e ∈ step C st.ls b) :
    push C st b =
      if allEoi C (step C st.ls b) then
        advance C { st with ls := step C st.ls b } (possible (step C st.ls b)) none 3
      else some { st with ls := step C st.ls b, pending := true } := by
  have hne := List.isEmpty_eq_false_iff_exists_mem.mpr ⟨e, he⟩
  have hnl := step_nolazy C st.ls b hs.nolazy
  cases hall : allEoi C (step C st.ls b) with
  | false => rw [push_goes_on hne (by simp [lowest_nolazy C _ hnl, hall])]; rfl
  | true =>
    have hlow : lowest C (step C st.ls b) = possible (step C st.ls b) := by
      simp [lowest_nolazy C _ hnl, hall]
    rw [push_ends hne (by simpa [hlow, possible] using hne), hlow]; rfl

theorem push_isSome (C : Cfg) (hskip : ∀ k, C.skipId = some k → (C.lx k).skip = true) {st : St}
    (hs : Steady C st) {b : B} {l q' : Nat} (hmem' : (l, q') ∈ step C st.ls b) :
    (push C st b).isSome = true := by
  obtain ⟨q, hm, _⟩ := mem_step.mp hmem'
  rw [push_steady hs hmem']
  split
  · exact advance_isSome C hskip { st with ls := step C st.ls b } (possible (step C st.ls b)) l
      (List.mem_map.mpr ⟨_, hmem', rfl⟩) (hs.allowed _ hm) 2
  · rfl

/-- the entry stays live for one more byte, so the state is not at its end and the lexeme goes on -/
theorem push_not_last {C : Cfg} {st : St} (hs : Steady C st) {r : Rx} {l q : Nat}
    (g : Good r (C.lx l).dfa) (hmem : (l, q) ∈ st.ls) (hq : q < (C.lx l).dfa.states.size) {b : B}
    {v : List B} (hv : v ≠ [])
    (hlive : (C.lx l).dfa.live[Dfa.run (C.lx l).dfa (next (C.lx l).dfa q b) v]! = true) :
    push C st b = some { st with ls := step C st.ls b, pending := true } ∧
      (l, next (C.lx l).dfa q b) ∈ step C st.ls b := by
  have hq' := (g.step_ok q hq b).1
  have hmem' : (l, next (C.lx l).dfa q b) ∈ step C st.ls b :=
    mem_step.mpr ⟨q, hmem, rfl, g.live_of_run hq' v hlive⟩
  obtain ⟨b2, v2, rfl⟩ := List.exists_cons_of_ne_nil hv
  have hlive2 := g.live_of_run (g.step_ok _ hq' b2).1 v2 (by simpa only [Dfa.run] using hlive)
  rw [push_steady hs hmem',
    if_neg (not_allEoi_of_live_next hmem' hlive2)]
  exact ⟨rfl, hmem'⟩

theorem run_of_live (C : Cfg) (hskip : ∀ k, C.skipId = some k → (C.lx k).skip = true) {r : Rx} {l : Nat}
    (g : Good r (C.lx l).dfa) :
    ∀ (w : List B) (st : St) (q : Nat), w ≠ [] → Steady C st → (l, q) ∈ st.ls →
      q < (C.lx l).dfa.states.size → (C.lx l).dfa.live[Dfa.run (C.lx l).dfa q w]! = true →
      (Lx.run C st w).isSome = true := by
  intro w
  induction w with
  | nil => intro st q hne; exact absurd rfl hne
  | cons b w ih =>
    intro st q _ hs hmem hq hlive
    simp only [Dfa.run] at hlive
    simp only [Lx.run]
    by_cases hw : w = []
    · subst hw
      simp only [Dfa.run] at hlive
      obtain ⟨s2, hpp⟩ := Option.isSome_iff_exists.mp (push_isSome C hskip hs
        (q' := next (C.lx l).dfa q b) (mem_step.mpr ⟨q, hmem, rfl, hlive⟩))
      rw [hpp]
      rfl
    · obtain ⟨hpush, hmem'⟩ := push_not_last hs g hmem hq hw hlive
      rw [hpush]
      exact ih _ _ hw (hs.goes_on b) hmem' (g.step_ok q hq b).1 hlive

end Lx
end LlgVerif
