/- Bits of the destination of the mask copy (M13): `bitOf` is `Svob.get` on the bare storage, so
   the copy is read through the lemmas of M1. -/
import LlgVerif.Model.Ffi
import LlgVerif.Proofs.Svob
namespace LlgVerif
open Svob

theorem bitOf_eq_get (d : List Word) (n t : Nat) : bitOf d t = Svob.get ⟨d, n⟩ t := rfl

theorem bitOf_orBitAt (d : List Word) (i t : Nat) (hi : i / 32 < d.length) :
    bitOf (orBitAt d i) t = (bitOf d t || decide (t = i)) := by
  simp only [bitOf_eq_get _ 0, orBitAt, get_set_or, getLsbD_one_shl _ _ (mod32_lt t)]
  congr 1
  rw [Bool.eq_iff_iff]
  simp only [Bool.and_eq_true, decide_eq_true_eq]
  omega

theorem bitOf_append_replicate (a : List Word) (k t : Nat) :
    bitOf (a ++ List.replicate k 0) t = bitOf a t := by
  unfold bitOf
  by_cases h : t / 32 < a.length
  · rw [List.getElem?_append_left h]
  · have h' : a.length ≤ t / 32 := Nat.le_of_not_lt h
    rw [List.getElem?_append_right h', List.getElem?_replicate,
      List.getElem?_eq_none_iff.mpr h']
    split <;> rfl

theorem bitOf_take (a : List Word) (n t : Nat) :
    bitOf (a.take n) t = (decide (t / 32 < n) && bitOf a t) := by
  unfold bitOf
  rw [List.getElem?_take]
  by_cases h : t / 32 < n <;> simp [h]

theorem length_parCopy_dest (m : Svob) (d eos : Nat) (addEos : Bool) :
    (parCopy (some m) d addEos eos).dest.length = d := by
  simp only [parCopy]
  rw [apply_ite List.length, orBitAt, List.length_set, ite_self, List.length_append,
    List.length_take, List.length_replicate]
  omega

theorem bitOf_parCopy (m : Svob) (d eos : Nat) (addEos : Bool) (t : Nat) :
    bitOf (parCopy (some m) d addEos eos).dest t =
      ((decide (t / 32 < min m.data.length d) && m.get t) ||
        (addEos && decide (eos / 32 < d) && decide (t = eos))) := by
  have hlen : (m.data.take (min m.data.length d) ++ List.replicate (d - min m.data.length d) 0).length = d :=
    length_parCopy_dest m d eos false
  simp only [parCopy]
  by_cases hc : addEos = true ∧ eos / 32 < d
  · rw [if_pos hc, bitOf_orBitAt _ _ _ (by rw [hlen]; exact hc.2), bitOf_append_replicate, bitOf_take, hc.1,
      decide_eq_true hc.2]
    rfl
  · rw [if_neg hc, bitOf_append_replicate, bitOf_take]
    have : (addEos && decide (eos / 32 < d)) = false := by
      rw [← Bool.not_eq_true, Bool.and_eq_true, decide_eq_true_eq]; exact hc
    rw [this, Bool.false_and, Bool.or_false]
    rfl

theorem parCopy_none_eq (d eos : Nat) (addEos : Bool) :
    parCopy none d addEos eos = parCopy (some ⟨[], 0⟩) d addEos eos := rfl

end LlgVerif
