/-
The branch-free DFS walk with pop counts (`add_bias_inner`) over the serialised trie visits exactly
the nodes whose byte path is accepted by the recogniser, and restores the recogniser stack (M2).
-/
import LlgVerif.Model.Trie
namespace LlgVerif

variable {S : Type}

mutual
/-- Tokens (or the fake id `defl`) of the nodes reached from state `s`, in DFS order. -/
def specTree (r : Rec S) (defl : Nat) : Tree → S → List Nat
  | Tree.node b t kids, s =>
    match r.step s b with
    | none => []
    | some s' => t.getD defl :: specKids r defl kids s'
def specKids (r : Rec S) (defl : Nat) : List Tree → S → List Nat
  | [], _ => []
  | c :: cs, s => specTree r defl c s ++ specKids r defl cs s
end

theorem ser_node (b : Byte) (t : Option Nat) (kids : List Tree) (np : Nat) :
    ser (Tree.node b t kids) np =
      { byte := b, tok := t, numParents := if np = 0 then 1 else np,
        subtreeSize := 1 + (serKids kids np).length } :: serKids kids np := by
  rw [ser]

theorem ser_length_pos (t : Tree) (np : Nat) : 0 < (ser t np).length := by
  cases t with
  | node b tk kids => rw [ser_node]; exact Nat.zero_lt_succ _

theorem serKids_length_pos (kids : List Tree) (np : Nat) (hk : kids ≠ []) :
    0 < (serKids kids np).length := by
  match kids with
  | [] => exact absurd rfl hk
  | [c] => exact ser_length_pos c _
  | c :: _ :: _ => simp only [serKids, List.length_append]; have := ser_length_pos c 1; omega

theorem ser_length (t : Tree) (np : Nat) :
    (ser t np).length = 1 + (serKids t.kids np).length := by
  cases t with
  | node b tk kids => rw [ser_node, List.length_cons, Nat.add_comm]; rfl

theorem ser_subtreeSize (t : Tree) (np : Nat) :
    ∀ h : 0 < (ser t np).length, ((ser t np)[0]'h).subtreeSize = (ser t np).length := by
  cases t with
  | node b tk kids =>
    intro h
    simp only [ser_node, List.getElem_cons_zero, List.length_cons, Nat.add_comm]

/-- the array holds the node list `l` from position `p` on: all the walk needs to know about the array -/
def Seg (nodes : Array FlatNode) (p : Nat) (l : List FlatNode) : Prop :=
  ∀ i (h : i < l.length), nodes[p + i]! = l[i]

theorem Seg.left {nodes : Array FlatNode} {p : Nat} {a b : List FlatNode} (h : Seg nodes p (a ++ b)) :
    Seg nodes p a := fun i hi => by
  rw [h i (by rw [List.length_append]; omega), List.getElem_append_left hi]

theorem Seg.right {nodes : Array FlatNode} {p : Nat} {a b : List FlatNode} (h : Seg nodes p (a ++ b)) :
    Seg nodes (p + a.length) b := fun i hi => by
  rw [Nat.add_assoc, h (a.length + i) (by rw [List.length_append]; omega),
    List.getElem_append_right (by omega)]
  simp only [Nat.add_sub_cancel_left]

theorem Seg.head {nodes : Array FlatNode} {p : Nat} {x : FlatNode} {l : List FlatNode}
    (h : Seg nodes p (x :: l)) : nodes[p]! = x := h 0 (Nat.zero_lt_succ _)

theorem Seg.tail {nodes : Array FlatNode} {p : Nat} {x : FlatNode} {l : List FlatNode}
    (h : Seg nodes p (x :: l)) : Seg nodes (p + 1) l := Seg.right (a := [x]) h

theorem seg_toArray (l : List FlatNode) : Seg l.toArray 0 l := fun i hi => by
  simp only [Nat.zero_add, List.getElem!_toArray, List.getElem!_eq_getElem?_getD,
    List.getElem?_eq_getElem hi, Option.getD_some]

theorem walkLoop_done {r : Rec S} {nodes : Array FlatNode} {endp defl p np : Nat} {st : List S}
    {tk : List Nat} (h : ¬ p < endp) : walkLoop r nodes endp defl p np st tk = (np, st, tk) := by
  rw [walkLoop]; simp [h]

theorem walkLoop_step {r : Rec S} {nodes : Array FlatNode} {endp defl p np : Nat} {st : List S}
    {tk : List Nat} {s : S} {rest : List S} (hp : p < endp) (hst : st.drop np = s :: rest) :
    walkLoop r nodes endp defl p np st tk =
      match r.step s (nodes[p]!).byte with
      | some s' =>
        walkLoop r nodes endp defl (p + 1)
          (if (nodes[p]!).subtreeSize = 1 then (nodes[p]!).numParents else 0) (s' :: s :: rest)
          ((nodes[p]!).tok.getD defl :: tk)
      | none =>
        if (nodes[p]!).subtreeSize = 0 then (0, s :: rest, tk)
        else walkLoop r nodes endp defl (p + (nodes[p]!).subtreeSize) ((nodes[p]!).numParents - 1)
          (s :: rest) tk := by
  rw [walkLoop, dif_pos hp]
  simp only [hst]
  rfl

-- State of the loop between iterations: `(p, nextPop, stack, toks)`; the *effective* stack is
-- `stack.drop nextPop`.  `np` is the pop count the subtree was serialised with: after it the loop has
-- popped `np - 1` states more than it pushed (the parents that end with it).  `hseg` is `Seg nodes p (ser t np)`.
mutual
theorem walk_tree (r : Rec S) (nodes : Array FlatNode) (endp defl : Nat)
    (t : Tree) (np : Nat) (p nextPop : Nat) (stack : List S) (tk : List Nat) (s : S) (rest : List S)
    (hnp : 1 ≤ np) (hend : p + (ser t np).length ≤ endp)
    (hseg : ∀ i (h : i < (ser t np).length), nodes[p + i]! = (ser t np)[i])
    (hst : stack.drop nextPop = s :: rest) :
    ∃ np' st', walkLoop r nodes endp defl p nextPop stack tk =
        walkLoop r nodes endp defl (p + (ser t np).length) np' st' ((specTree r defl t s).reverse ++ tk) ∧
      st'.drop np' = (s :: rest).drop (np - 1) := by
  obtain ⟨k, rfl⟩ := Nat.exists_eq_add_one.2 hnp
  match t with
  | Tree.node b t kids =>
    rw [ser_node, if_neg (Nat.succ_ne_zero k)] at hend hseg ⊢
    rw [List.length_cons] at hend ⊢
    rw [walkLoop_step (by omega) hst, Seg.head hseg, specTree]
    cases r.step s b with
    | none =>
      simp only [Nat.add_comm 1, Nat.add_one_ne_zero, ↓reduceIte]
      exact ⟨k, s :: rest, rfl, rfl⟩
    | some s' =>
      simp only
      by_cases hk : kids = []
      · subst hk
        exact ⟨k + 1, s' :: s :: rest, rfl, rfl⟩
      · have hne : 1 + (serKids kids (k + 1)).length ≠ 1 := by
          have := serKids_length_pos kids (k + 1) hk; omega
        rw [if_neg hne, List.reverse_cons, List.append_assoc, List.singleton_append,
          Nat.add_comm (List.length _) 1, ← Nat.add_assoc]
        exact walk_kids r endp defl (t.getD defl :: tk) hk (by omega) (Seg.tail hseg) rfl
theorem walk_kids (r : Rec S) (endp defl : Nat) (tk : List Nat) {nodes : Array FlatNode}
    {kids : List Tree} {np p nextPop : Nat} {stack : List S} {s : S} {rest : List S}
    (hk : kids ≠ []) (hend : p + (serKids kids np).length ≤ endp)
    (hseg : Seg nodes p (serKids kids np))
    (hst : stack.drop nextPop = s :: rest) :
    ∃ np' st', walkLoop r nodes endp defl p nextPop stack tk =
        walkLoop r nodes endp defl (p + (serKids kids np).length) np' st' ((specKids r defl kids s).reverse ++ tk) ∧
      st'.drop np' = (s :: rest).drop np := by
  match kids with
  | [] => exact absurd rfl hk
  | [c] =>
    simp only [serKids, specKids, List.append_nil] at hend hseg ⊢
    exact walk_tree r nodes endp defl c (np + 1) p nextPop stack tk s rest (Nat.succ_pos np) hend hseg
      hst
  | c :: c2 :: cs' =>
    simp only [serKids, List.length_append, ← Nat.add_assoc] at hend hseg ⊢
    rw [specKids, List.reverse_append, List.append_assoc]
    obtain ⟨np1, st1, heq1, hdrop1⟩ := walk_tree r nodes endp defl c 1 p nextPop stack tk s rest
      (Nat.le_refl 1) (by omega) (Seg.left hseg) hst
    rw [heq1]
    exact walk_kids r endp defl _ (List.cons_ne_nil c2 cs') hend (Seg.right hseg) hdrop1
end

theorem walk_root (r : Rec S) (t : Tree) (defl : Nat) (s0 : S) :
    ∃ np' st', walkLoop r (flatten t) (ser t 0).length defl 1 0 [s0] [] =
        (np', st', (specKids r defl t.kids s0).reverse) ∧ st'.drop np' = [s0] := by
  cases t with
  | node b tk kids =>
    have hlen := ser_length (Tree.node b tk kids) 0
    simp only [Tree.kids] at hlen ⊢
    by_cases hk : kids = []
    · subst hk
      exact ⟨0, [s0], walkLoop_done (by simp [hlen, serKids]), rfl⟩
    · obtain ⟨np', st', heq, hdrop⟩ := walk_kids r (ser (Tree.node b tk kids) 0).length defl []
        (nodes := flatten (Tree.node b tk kids)) (np := 0) (nextPop := 0) (stack := [s0]) hk (by omega)
        (Seg.tail (l := serKids kids 0) (seg_toArray _)) rfl
      refine ⟨np', st', ?_, hdrop⟩
      rw [heq, walkLoop_done (by omega), List.append_nil]

theorem addBias_flatten (r : Rec S) (t : Tree) (vocab : Nat) (s0 : S) :
    addBias r (flatten t) vocab s0 [] =
      (specKids r vocab t.kids s0).reverse.filter (· ≠ vocab) := by
  obtain ⟨np', st', hw, _⟩ := walk_root r t vocab s0
  have hsz : ((flatten t)[0]!).subtreeSize = (ser t 0).length := by
    rw [← ser_subtreeSize t 0 (ser_length_pos t 0)]
    exact congrArg _ (seg_toArray _ 0 _)
  simp only [addBias, List.isEmpty_nil, ↓reduceIte, childAtBytes, Nat.zero_add, hsz, hw]

end LlgVerif
