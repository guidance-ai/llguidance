/-
The prefix grammar theorem: in `preG G`, `(s, false)` derives what `s` derives in `G`, and
`(s, true)` derives exactly the prefixes of what `s` derives (all symbols productive).
-/
import LlgVerif.Proofs.CfgPrefixRules
namespace LlgVerif
namespace Cfg

variable {N : Type}

/-! ### soundness: what `preG` derives is a prefix of something `G` derives -/

/-- what a symbol of the prefix grammar stands for in `G`: an unmarked symbol for what it derives, a
marked nonterminal for the starts of what it derives -/
def SymSem (G : Gram N) : Sym (N × Bool) → List B → Prop
  | Sym.t lo hi, u => DL G [Sym.t lo hi] u
  | Sym.nt (a, false), u => DL G [Sym.nt a] u
  | Sym.nt (a, true), u => ∃ v, DL G [Sym.nt a] (u ++ v)

/-- the text splits into one piece per symbol of the form, each in the meaning of its symbol -/
def FormSem (G : Gram N) : List (Sym (N × Bool)) → List B → Prop
  | [], w => w = []
  | s :: γ, w => ∃ u v, w = u ++ v ∧ SymSem G s u ∧ FormSem G γ v

theorem sem_emb (G : Gram N) (s : Sym N) (u : List B) (h : SymSem G (emb s) u) : DL G [s] u := by
  cases s <;> exact h

/-- second part: a cut at a symbol boundary leaves nothing to add -/
theorem sem_cutL (G : Gram N) (d : List (Sym N)) (c : Option N) (w : List B) (h : FormSem G (cutL d c) w) :
    ∃ v, DL G (cutR d c) (w ++ v) ∧ (c = none → v = []) := by
  induction d generalizing w with
  | nil =>
    cases c with
    | none =>
      obtain rfl : w = [] := h
      exact ⟨[], DL.nil, fun _ => rfl⟩
    | some b =>
      obtain ⟨u, _, rfl, ⟨v, hv⟩, rfl⟩ := h
      exact ⟨v, by simpa using hv, nofun⟩
  | cons s d ih =>
    obtain ⟨u1, u2, rfl, h1, h2⟩ := h
    obtain ⟨v, hv, hnil⟩ := ih u2 h2
    exact ⟨v, by simpa using DL_append (sem_emb G s u1 h1) hv, hnil⟩

section
variable [DecidableEq N] [Hashable N]

theorem preG_sem {G : Gram N} (hp : allProductive G = true) {γ : List (Sym (N × Bool))}
    {w : List B} (hd : DL (preG G) γ w) : FormSem G γ w := by
  induction hd with
  | nil => exact rfl
  | t h1 h2 _ ih => exact ⟨[_], _, rfl, DL.t h1 h2 DL.nil, ih⟩
  | @nt x β' γ0 u v0 hr _ _ ih1 ih2 =>
    refine ⟨u, v0, rfl, ?_, ih2⟩
    obtain ⟨a, _ | _⟩ := x
    · -- an embedded symbol: its rule is an embedded rule of `G`
      obtain ⟨β, hβ, rfl⟩ := mem_preG_false.mp hr
      obtain ⟨_, hu, hnil⟩ := sem_cutL G β none u (by rwa [cutL_none])
      rw [hnil rfl, cutR_none, List.append_nil] at hu
      exact DL_single hβ hu
    · -- a marked symbol: its rule is a cut rule of `a`, and the rest of that rule is productive
      obtain ⟨d, c, rest, hβ, rfl⟩ := mem_preG_true.mp hr
      obtain ⟨v1, hv1, _⟩ := sem_cutL G d c u ih1
      obtain ⟨v2, hv2⟩ := productive_of_symOK G rest fun s hs =>
        allProductive_spec G hp a _ hβ s (List.mem_append_right _ hs)
      exact ⟨v1 ++ v2, by simpa using DL_single hβ (DL_append hv1 hv2)⟩

end

/-! ### completeness: `preG` derives every such prefix -/

theorem preG_embed (G : Gram N) (α : List (Sym N)) (w : List B) (hd : DL G α w) :
    DL (preG G) (embL α) w := by
  induction hd with
  | nil => exact DL.nil
  | t h1 h2 _ ih => exact DL.t h1 h2 ih
  | @nt a β α u v hr _ _ ih1 ih2 =>
    exact DL.nt (mem_preG_false.mpr ⟨β, hr, rfl⟩) ih1 ih2

/-- `w` is consumed by a start of the form `α`, up to some cut -/
def Pre (G : Gram N) (α : List (Sym N)) (w : List B) : Prop :=
  ∃ d c rest, α = cutR d c ++ rest ∧ DL (preG G) (cutL d c) w

theorem pre_to_nt (G : Gram N) (a : N) (β : List (Sym N)) (hr : (a, β) ∈ G) (w : List B)
    (h : Pre G β w) : DL (preG G) [Sym.nt (a, true)] w := by
  obtain ⟨d, c, rest, rfl, hd⟩ := h
  exact DL_single (mem_preG_true.mpr ⟨d, c, rest, hr, rfl⟩) hd

theorem preG_complete (G : Gram N) {α : List (Sym N)} {x : List B} (hd : DL G α x) {w v : List B}
    (h : x = w ++ v) : Pre G α w := by
  induction hd generalizing w v with
  | nil =>
    obtain rfl : w = [] := (List.append_eq_nil_iff.mp h.symm).1
    exact ⟨[], none, [], rfl, DL.nil⟩
  | @t lo hi b α0 x0 h1 h2 _ ih =>
    cases w with
    | nil => exact ⟨[], none, _, rfl, DL.nil⟩
    | cons b' w0 =>
      obtain ⟨rfl, h'⟩ := List.cons.inj h
      obtain ⟨d, c, rest, rfl, hd⟩ := ih h'
      exact ⟨Sym.t lo hi :: d, c, rest, rfl, DL.t h1 h2 hd⟩
  | @nt a β α0 u v0 hr hβ _ ih1 ih2 =>
    rcases List.append_eq_append_iff.mp h with ⟨z, rfl, hv0⟩ | ⟨z, hu, hv⟩
    · -- w = u ++ z : the nonterminal is consumed entirely
      obtain ⟨d, c, rest, rfl, hd⟩ := ih2 hv0
      exact ⟨Sym.nt a :: d, c, rest, rfl,
        DL.nt (mem_preG_false.mpr ⟨β, hr, rfl⟩) (preG_embed G β u hβ) hd⟩
    · -- u = w ++ z : w ends inside the expansion of a
      exact ⟨[], some a, α0, rfl, pre_to_nt G a β hr w (ih1 hu)⟩

variable [DecidableEq N] [Hashable N]

/-- **Prefix grammar.**  With every symbol productive, `(s, true)` derives `w` in the prefix grammar
iff `w` is a prefix of a string `s` derives in `G`; `(s, false)` derives what `s` derives. -/
theorem preG_prefix (G : Gram N) (hp : allProductive G = true) (s : N) (w : List B) :
    DL (preG G) [Sym.nt (s, true)] w ↔ ∃ v, DL G [Sym.nt s] (w ++ v) := by
  constructor
  · intro h
    obtain ⟨u, _, rfl, hu, rfl⟩ := preG_sem hp h
    rwa [List.append_nil]
  · rintro ⟨v, h⟩
    obtain ⟨β, hr, hβ⟩ := DL_single_inv h
    exact pre_to_nt G s β hr w (preG_complete G hβ rfl)

theorem preG_same (G : Gram N) (hp : allProductive G = true) (s : N) (w : List B) :
    DL (preG G) [Sym.nt (s, false)] w ↔ DL G [Sym.nt s] w := by
  constructor
  · intro h
    obtain ⟨u, _, rfl, hu, rfl⟩ := preG_sem hp h
    rwa [List.append_nil]
  · exact preG_embed G _ _

end Cfg
end LlgVerif
