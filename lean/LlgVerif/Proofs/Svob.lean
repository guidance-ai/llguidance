/- M1 (`Model/Svob.lean`): what `get` reads after each way an operation changes the storage — one word
   replaced (`List.set`), the words mapped with their index (`mapIdxAux`, `List.map`), storages combined
   word by word (`zipW`, `zipW3`) — and the bits of the masks.  The operations follow from these without
   looking at the storage again. -/
import LlgVerif.Model.Svob
namespace LlgVerif
namespace Svob

theorem getElem?_mapIdxAux (f : Nat → Word → Word) (k : Nat) (l : List Word) (i : Nat) :
    (mapIdxAux f k l)[i]? = (l[i]?).map (f (k + i)) := by
  induction l generalizing k i with
  | nil => simp [mapIdxAux]
  | cons w ws ih =>
    cases i with
    | zero => simp [mapIdxAux]
    | succ i =>
      simp only [mapIdxAux, List.getElem?_cons_succ, ih]
      congr 2; omega

theorem length_mapIdxAux (f : Nat → Word → Word) (k : Nat) (l : List Word) :
    (mapIdxAux f k l).length = l.length := by
  induction l generalizing k with
  | nil => rfl
  | cons w ws ih => simp [mapIdxAux, ih]

theorem mod32_lt (i : Nat) : i % 32 < 32 := Nat.mod_lt _ (by decide)

-- core's `BitVec.getLsbD_zero` is about `0#w`; the model writes `(0 : Word)`
theorem getLsbD_zero (b : Nat) : (0 : Word).getLsbD b = false := by simp

theorem wordAt_of_le (v : Svob) (k : Nat) (h : v.data.length ≤ k) : v.wordAt k = 0 := by
  simp only [wordAt, List.getElem?_eq_none_iff.mpr h, Option.getD_none]

theorem get_of_le (v : Svob) (j : Nat) (h : v.data.length ≤ j / 32) : v.get j = false := by
  simp only [get, wordAt_of_le v _ h, getLsbD_zero]

/-- `get` is already false beyond the storage, so a length guard in front of it is redundant -/
theorem lt_and_get (v : Svob) (j : Nat) : (decide (j / 32 < v.data.length) && v.get j) = v.get j := by
  by_cases h : j / 32 < v.data.length
  · rw [decide_eq_true h, Bool.true_and]
  · rw [get_of_le v j (Nat.le_of_not_lt h), Bool.and_false]

theorem get_replicate_zero (k n j : Nat) : get ⟨List.replicate k 0, n⟩ j = false := by
  simp only [get, wordAt, List.getElem?_replicate]
  split <;> exact getLsbD_zero _

theorem get_set (d : List Word) (n k : Nat) (w : Word) (j : Nat) :
    get ⟨d.set k w, n⟩ j = if j / 32 = k ∧ k < d.length then w.getLsbD (j % 32) else get ⟨d, n⟩ j := by
  simp only [get, wordAt, List.getElem?_set]
  by_cases hk : k = j / 32
  · subst hk
    by_cases hl : j / 32 < d.length
    · simp only [hl, and_self, ↓reduceIte, Option.getD_some]
    · simp only [hl, and_false, ↓reduceIte, Option.getD_none,
        List.getElem?_eq_none_iff.mpr (Nat.le_of_not_lt hl)]
  · simp only [hk, Ne.symm hk, false_and, ↓reduceIte]

theorem get_set_or (d : List Word) (n k : Nat) (m : Word) (j : Nat) :
    get ⟨d.set k ((d[k]?).getD 0 ||| m), n⟩ j =
      (get ⟨d, n⟩ j || (decide (j / 32 = k ∧ k < d.length) && m.getLsbD (j % 32))) := by
  rw [get_set]
  split
  · rename_i h; simp only [BitVec.getLsbD_or, get, wordAt, h, and_self, decide_true, Bool.true_and]
  · rename_i h; simp only [h, decide_false, Bool.false_and, Bool.or_false]

/-- the shape `List.map` and `mapIdxAux` share -/
theorem getLsbD_getD_map (g : Word → Word) (d : List Word) (i b : Nat) :
    (((d[i]?).map g).getD 0).getLsbD b =
      (decide (i < d.length) && (g ((d[i]?).getD 0)).getLsbD b) := by
  by_cases h : i < d.length
  · simp only [List.getElem?_eq_getElem h, Option.map_some, Option.getD_some, h, decide_true,
      Bool.true_and]
  · simp only [List.getElem?_eq_none_iff.mpr (Nat.le_of_not_lt h), Option.map_none,
      Option.getD_none, getLsbD_zero, h, decide_false, Bool.false_and]

theorem get_mapIdxAux (f : Nat → Word → Word) (d : List Word) (n j : Nat) :
    get ⟨mapIdxAux f 0 d, n⟩ j =
      (decide (j / 32 < d.length) && (f (j / 32) (wordAt ⟨d, n⟩ (j / 32))).getLsbD (j % 32)) := by
  simp only [get, wordAt, getElem?_mapIdxAux, Nat.zero_add, getLsbD_getD_map]

theorem get_map (f : Word → Word) (d : List Word) (n j : Nat) :
    get ⟨d.map f, n⟩ j =
      (decide (j / 32 < d.length) && (f (wordAt ⟨d, n⟩ (j / 32))).getLsbD (j % 32)) := by
  simp only [get, wordAt, List.getElem?_map, getLsbD_getD_map]

theorem wordAt_zipW3 (f : Word → Word → Word → Word) (a b c : List Word) (n i : Nat) :
    wordAt ⟨zipW3 f a b c, n⟩ i =
      if i < a.length ∧ i < b.length ∧ i < c.length then
        f (wordAt ⟨a, n⟩ i) (wordAt ⟨b, n⟩ i) (wordAt ⟨c, n⟩ i)
      else wordAt ⟨a, n⟩ i := by
  induction a generalizing b c i with
  | nil => exact (if_neg fun h => Nat.not_lt_zero _ h.1).symm
  | cons x xs ih =>
    cases b with
    | nil => exact (if_neg fun h => Nat.not_lt_zero _ h.2.1).symm
    | cons y ys =>
      cases c with
      | nil => exact (if_neg fun h => Nat.not_lt_zero _ h.2.2).symm
      | cons z zs =>
        cases i with
        | zero => exact (if_pos ⟨Nat.zero_lt_succ _, Nat.zero_lt_succ _, Nat.zero_lt_succ _⟩).symm
        | succ i =>
          simp only [List.length_cons, Nat.add_lt_add_iff_right]
          exact ih ys zs i

theorem length_zipW3 (f : Word → Word → Word → Word) (a b c : List Word) :
    (zipW3 f a b c).length = a.length := by
  induction a generalizing b c with
  | nil => rfl
  | cons x xs ih =>
    cases b with
    | nil => rfl
    | cons y ys =>
      cases c with
      | nil => rfl
      | cons z zs => exact congrArg (· + 1) (ih ys zs)

theorem get_zipW3 (f : Word → Word → Word → Word) (g : Bool → Bool → Bool → Bool)
    (hf : ∀ x y z b, b < 32 → (f x y z).getLsbD b = g (x.getLsbD b) (y.getLsbD b) (z.getLsbD b))
    (a b c : Svob) (n j : Nat) :
    get ⟨zipW3 f a.data b.data c.data, n⟩ j =
      if j / 32 < a.data.length ∧ j / 32 < b.data.length ∧ j / 32 < c.data.length then
        g (a.get j) (b.get j) (c.get j)
      else a.get j := by
  simp only [get, wordAt_zipW3]
  split
  · exact hf _ _ _ _ (mod32_lt j)
  · rfl

theorem zipW_eq_zipW3 (f : Word → Word → Word) (a b : List Word) :
    zipW f a b = zipW3 (fun x y _ => f x y) a b b := by
  induction a generalizing b with
  | nil => cases b <;> rfl
  | cons x xs ih => cases b with
    | nil => rfl
    | cons y ys => simp only [zipW, zipW3, ih]

theorem length_zipW (f : Word → Word → Word) (a b : List Word) : (zipW f a b).length = a.length := by
  rw [zipW_eq_zipW3, length_zipW3]

/-- Total form: a storage that lacks the word reads `false` there, and `zipW` keeps the first storage's
word where the second has none. -/
theorem get_zipW (f : Word → Word → Word) (g : Bool → Bool → Bool)
    (hf : ∀ x y b, b < 32 → (f x y).getLsbD b = g (x.getLsbD b) (y.getLsbD b)) (a b : Svob) (n j : Nat) :
    get ⟨zipW f a.data b.data, n⟩ j =
      (decide (j / 32 < a.data.length) &&
        bif decide (j / 32 < b.data.length) then g (a.get j) (b.get j) else a.get j) := by
  rw [zipW_eq_zipW3, get_zipW3 _ (fun x y _ => g x y) (fun x y _ => hf x y)]
  by_cases hv : j / 32 < a.data.length
  · by_cases ho : j / 32 < b.data.length
    · simp only [hv, ho, and_self, ↓reduceIte, decide_true, Bool.true_and, cond_true]
    · simp only [hv, ho, and_false, ↓reduceIte, decide_true, decide_false, Bool.true_and, cond_false]
  · simp only [hv, false_and, ↓reduceIte, decide_false, Bool.false_and, get_of_le a j (Nat.le_of_not_lt hv)]

/-- for an operation that a zero word on the right does not change (`or`, `sub`) -/
theorem get_zipW_of_unit (f : Word → Word → Word) (g : Bool → Bool → Bool)
    (hf : ∀ x y b, b < 32 → (f x y).getLsbD b = g (x.getLsbD b) (y.getLsbD b)) (hg : ∀ x, g x false = x)
    (a b : Svob) (n j : Nat) :
    get ⟨zipW f a.data b.data, n⟩ j = (decide (j / 32 < a.data.length) && g (a.get j) (b.get j)) := by
  rw [get_zipW f g hf]
  by_cases ho : j / 32 < b.data.length
  · rw [decide_eq_true ho, cond_true]
  · rw [decide_eq_false ho, cond_false, get_of_le b j (Nat.le_of_not_lt ho), hg]

theorem getLsbD_one_shl (s b : Nat) (hb : b < 32) : ((1#32) <<< s).getLsbD b = decide (b = s) := by
  simp only [BitVec.getLsbD_shiftLeft, BitVec.getLsbD_one, hb, decide_true, Bool.true_and,
    ← decide_not, ← Bool.decide_and]
  exact decide_eq_decide.mpr (by omega)

theorem getLsbD_setBit (w : Word) (b j : Nat) (val : Bool) (hj : j < 32) :
    (setBit w b val).getLsbD j = if j = b then val else w.getLsbD j := by
  unfold setBit
  cases val
  · simp only [Bool.false_eq_true, ↓reduceIte, BitVec.getLsbD_and, BitVec.getLsbD_not,
      getLsbD_one_shl _ _ hj, hj, decide_true, Bool.true_and]
    split <;> simp [*]
  · simp only [↓reduceIte, BitVec.getLsbD_or, getLsbD_one_shl _ _ hj]
    split <;> simp [*]

theorem getLsbD_startMask (s b : Nat) (hb : b < 32) :
    ((BitVec.allOnes 32) <<< s).getLsbD b = decide (s ≤ b) := by
  simp only [BitVec.getLsbD_shiftLeft, BitVec.getLsbD_allOnes, hb, show b - s < 32 by omega,
    decide_true, Bool.true_and, Bool.and_true, ← decide_not, Nat.not_lt]

theorem getLsbD_endMask (e b : Nat) (he : e < 32) :
    ((BitVec.allOnes 32) >>> (31 - e)).getLsbD b = decide (b ≤ e) := by
  simp only [BitVec.getLsbD_ushiftRight, BitVec.getLsbD_allOnes]
  exact decide_eq_decide.mpr (by omega)

theorem getLsbD_clearWord (size k : Nat) (w : Word) (b : Nat) (hb : b < 32) :
    (clearWord size k w).getLsbD b = (decide (32 * k + b < size) && w.getLsbD b) := by
  unfold clearWord
  split
  · have : ¬ 32 * k + b < size := by omega
    simp only [getLsbD_zero, this, decide_false, Bool.false_and]
  · split
    · have : 32 * k + b < size := by omega
      simp only [this, decide_true, Bool.true_and]
    · have : (¬ size - 32 * k ≤ b) = (32 * k + b < size) := by apply propext; omega
      simp only [BitVec.getLsbD_and, BitVec.getLsbD_not, getLsbD_startMask _ _ hb, hb, decide_true,
        Bool.true_and, ← decide_not, this, Bool.and_comm]

end Svob
end LlgVerif
