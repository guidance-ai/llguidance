/-
The DFS spec = per-token filtering over the paths of the tree (`mem_specKids`), what
`TrieBuilder::insert` does to the paths (`insertKids_adds`), and `TokTrie::from`: the tree built
represents exactly `(bytes, id)` of the non-empty words (`mem_paths_foldl`).
-/
import LlgVerif.Proofs.TrieWalk
import LlgVerif.Proofs.ListFacts
namespace LlgVerif

variable {S : Type}

mutual
/-- byte paths (from the child list downwards) with the token stored at their end -/
def pathsTree : Tree → List (List Byte × Option Nat)
  | Tree.node b t kids => ([b], t) :: (pathsKids kids).map (fun p => (b :: p.1, p.2))
def pathsKids : List Tree → List (List Byte × Option Nat)
  | [] => []
  | c :: cs => pathsTree c ++ pathsKids cs
end

theorem mem_pathsTree (b : Byte) (tk : Option Nat) (ck : List Tree) (w : List Byte) (o : Option Nat) :
    (w, o) ∈ pathsTree (Tree.node b tk ck) ↔
      (w = [b] ∧ o = tk) ∨ ∃ w', w = b :: w' ∧ (w', o) ∈ pathsKids ck := by
  simp only [pathsTree, List.mem_cons, Prod.mk.injEq, List.mem_map, Prod.exists]
  exact or_congr Iff.rfl ⟨fun ⟨w', o', h, h1, h2⟩ => ⟨w', h1.symm, h2 ▸ h⟩,
    fun ⟨w', h1, h⟩ => ⟨w', o, h, h1.symm, rfl⟩⟩

mutual
theorem mem_specTree (r : Rec S) (defl : Nat) (t : Tree) (s : S) (x : Nat) :
    x ∈ specTree r defl t s ↔
      ∃ w tk, (w, tk) ∈ pathsTree t ∧ (runBytes r s w).isSome ∧ x = tk.getD defl := by
  match t with
  | Tree.node b t kids =>
    simp only [specTree, mem_pathsTree]
    cases hstep : r.step s b with
    | none =>
      refine iff_of_false List.not_mem_nil ?_
      rintro ⟨w, tk, ⟨rfl, -⟩ | ⟨w', rfl, -⟩, hr, -⟩ <;> simp [runBytes, hstep] at hr
    | some s' =>
      rw [List.mem_cons, mem_specKids r defl kids s' x]
      constructor
      · rintro (h | ⟨w, tk, hm, hr, hx⟩)
        · exact ⟨[b], t, Or.inl ⟨rfl, rfl⟩, by simp [runBytes, hstep], h⟩
        · exact ⟨b :: w, tk, Or.inr ⟨w, rfl, hm⟩, by simpa [runBytes, hstep] using hr, hx⟩
      · rintro ⟨w, tk, ⟨rfl, rfl⟩ | ⟨w', rfl, hm⟩, hr, hx⟩
        · exact Or.inl hx
        · exact Or.inr ⟨w', tk, hm, by simpa [runBytes, hstep] using hr, hx⟩
theorem mem_specKids (r : Rec S) (defl : Nat) (kids : List Tree) (s : S) (x : Nat) :
    x ∈ specKids r defl kids s ↔
      ∃ w tk, (w, tk) ∈ pathsKids kids ∧ (runBytes r s w).isSome ∧ x = tk.getD defl := by
  match kids with
  | [] => simp [specKids, pathsKids]
  | c :: cs =>
    simp only [specKids, pathsKids, List.mem_append, mem_specTree r defl c s x,
      mem_specKids r defl cs s x, or_and_right, exists_or]
end

theorem pathsKids_append (a b : List Tree) : pathsKids (a ++ b) = pathsKids a ++ pathsKids b := by
  induction a with
  | nil => rfl
  | cons c cs ih => simp only [List.cons_append, pathsKids, ih, List.append_assoc]

/-- the token-carrying paths of `cs'` are those of `cs` and `(word, t)`: what every step of
`TrieBuilder::insert` does to a child list -/
def AddsPath (cs cs' : List Tree) (word : List Byte) (t : Nat) : Prop :=
  ∀ w x, (w, some x) ∈ pathsKids cs' ↔ (w, some x) ∈ pathsKids cs ∨ (w = word ∧ x = t)

theorem AddsPath.append_left {a a' : List Tree} {word : List Byte} {t : Nat} (h : AddsPath a a' word t)
    (l : List Tree) : AddsPath (l ++ a) (l ++ a') word t := fun w x => by
  simp only [pathsKids_append, List.mem_append, h w x, or_assoc]

theorem AddsPath.append_right {a a' : List Tree} {word : List Byte} {t : Nat} (h : AddsPath a a' word t)
    (r : List Tree) : AddsPath (a ++ r) (a' ++ r) word t := fun w x => by
  simp only [pathsKids_append, List.mem_append, h w x]
  exact or_right_comm

theorem AddsPath.node {ck ck' : List Tree} {word : List Byte} {t : Nat} (h : AddsPath ck ck' word t)
    (b : Byte) (tk : Option Nat) :
    AddsPath [Tree.node b tk ck] [Tree.node b tk ck'] (b :: word) t := fun w x => by
  have h' : ∀ w', (w', some x) ∈ pathsKids ck' ↔ (w', some x) ∈ pathsKids ck ∨ (w' = word ∧ x = t) :=
    fun w' => h w' x
  simp only [pathsKids, List.append_nil, mem_pathsTree, h', and_or_left, exists_or, or_assoc]
  exact or_congr_right (or_congr_right
    ⟨fun ⟨w', h1, h2, h3⟩ => ⟨h2 ▸ h1, h3⟩, fun ⟨h1, h3⟩ => ⟨word, h1, rfl, h3⟩⟩)

theorem addsPath_setTok (b : Byte) (t : Nat) (ck : List Tree) :
    AddsPath [Tree.node b none ck] [Tree.node b (some t) ck] [b] t := fun w x => by
  simp only [pathsKids, List.append_nil, mem_pathsTree, Option.some.injEq, reduceCtorEq, and_false,
    false_or]
  exact or_comm

/-- a new child starts as an empty node without token, which carries no token path -/
theorem AddsPath.of_empty {cs' : List Tree} {word : List Byte} {t : Nat} {b : Byte}
    (h : AddsPath [Tree.node b none []] cs' word t) : AddsPath [] cs' word t := fun w x => by
  have h0 : (w, some x) ∉ pathsKids [Tree.node b none []] := by simp [pathsKids, mem_pathsTree]
  exact (h w x).trans (or_congr_left (iff_of_false h0 List.not_mem_nil))

theorem insertLast_adds (b : Byte) (t : Nat) (cs : List Tree) : AddsPath cs (insertLast b t cs) [b] t := by
  induction cs with
  | nil => exact (addsPath_setTok b t []).of_empty
  | cons c rest ih =>
    cases c with
    | node cb ct ck =>
      simp only [insertLast, Tree.byte, Tree.tok, Tree.kids]
      by_cases hb : cb = b
      · subst hb
        simp only [↓reduceIte]
        cases ct with
        | none => exact (addsPath_setTok cb t ck).append_right rest
        | some y =>
          have := (addsPath_setTok cb t []).of_empty.append_left (Tree.node cb (some y) ck :: rest)
          rwa [List.append_nil] at this
      · simp only [hb, ↓reduceIte]
        exact ih.append_left [Tree.node cb ct ck]

theorem modFirst_adds (b : Byte) (f : Tree → Tree) (mk : Unit → Tree) (word : List Byte) (t : Nat)
    (hf : ∀ c, c.byte = b → AddsPath [c] [f c] word t)
    (hmk : AddsPath [Tree.node b none []] [mk ()] word t) (cs : List Tree) :
    AddsPath cs (modFirst b f mk cs) word t := by
  induction cs with
  | nil => exact hmk.of_empty
  | cons c rest ih =>
    simp only [modFirst]
    split
    · rename_i hb; exact (hf c hb).append_right rest
    · exact ih.append_left [c]

theorem insertKids_adds (word : List Byte) (t : Nat) (hw : word ≠ []) (cs : List Tree) :
    AddsPath cs (insertKids word t cs) word t := by
  match word with
  | [] => exact absurd rfl hw
  | [b] => exact insertLast_adds b t cs
  | b :: b2 :: rest =>
    have ih := insertKids_adds (b2 :: rest) t (List.cons_ne_nil _ _)
    refine modFirst_adds b _ _ _ t (fun c hc => ?_) ((ih []).node b none) cs
    cases c with
    | node cb ct ck => cases hc; exact (ih ck).node cb ct
termination_by word.length

theorem mem_insertSorted (x y : List Byte × Nat) (l : List (List Byte × Nat)) :
    y ∈ insertSorted x l ↔ y = x ∨ y ∈ l := by
  induction l with
  | nil => simp [insertSorted]
  | cons z zs ih =>
    simp only [insertSorted]
    split
    · simp only [List.mem_cons, ih, or_left_comm]
    · simp only [List.mem_cons]

theorem mem_sortWords (l : List (List Byte × Nat)) (y : List Byte × Nat) :
    y ∈ sortWords l ↔ y ∈ l := by
  simp [sortWords, mem_foldl_insert mem_insertSorted]

theorem enumFrom_eq_zipIdx {α} (k : Nat) (l : List α) : enumFrom k l = l.zipIdx k := by
  induction l generalizing k with
  | nil => rfl
  | cons x xs ih => simp only [enumFrom, List.zipIdx_cons, ih]

theorem mem_paths_foldl (l : List (List Byte × Nat)) (cs : List Tree) (w : List Byte) (x : Nat) :
    (w, some x) ∈ pathsKids (l.foldl (fun cs (p : List Byte × Nat) =>
        if p.1.isEmpty then cs else insertKids p.1 p.2 cs) cs) ↔
      (w, some x) ∈ pathsKids cs ∨ ((w, x) ∈ l ∧ w ≠ []) := by
  induction l generalizing cs with
  | nil => simp
  | cons p ps ih =>
    have hp : (w, some x) ∈ pathsKids (if p.1.isEmpty then cs else insertKids p.1 p.2 cs) ↔
        (w, some x) ∈ pathsKids cs ∨ ((w, x) = p ∧ w ≠ []) := by
      split
      · rename_i he
        refine (or_iff_left ?_).symm
        rintro ⟨rfl, hne⟩; exact hne (List.isEmpty_iff.mp he)
      · rename_i he
        rw [insertKids_adds p.1 p.2 (mt List.isEmpty_iff.mpr he) cs w x]
        refine or_congr_right ⟨?_, ?_⟩
        · rintro ⟨rfl, rfl⟩; exact ⟨rfl, mt List.isEmpty_iff.mpr he⟩
        · rintro ⟨rfl, -⟩; exact ⟨rfl, rfl⟩
    simp only [List.foldl_cons, ih, hp, List.mem_cons, or_assoc, or_and_right]

end LlgVerif
