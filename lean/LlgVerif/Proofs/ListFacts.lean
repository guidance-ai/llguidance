/- General `List` facts that core lacks. -/
namespace LlgVerif

theorem snoc_induction {α : Type} {P : List α → Prop} (nil : P [])
    (snoc : ∀ l a, P l → P (l ++ [a])) (l : List α) : P l := by
  rw [← List.reverse_reverse l]
  induction l.reverse with
  | nil => exact nil
  | cons a t ih => rw [List.reverse_cons]; exact snoc _ _ ih

theorem getD_append_left {α : Type} (a b : List α) (d : α) {k : Nat} (h : k < a.length) :
    (a ++ b).getD k d = a.getD k d := by
  simp only [List.getD_eq_getElem?_getD, List.getElem?_append_left h]

theorem getD_take {α : Type} (l : List α) (d : α) {j k : Nat} (h : k < j) :
    (l.take j).getD k d = l.getD k d := by
  simp only [List.getD_eq_getElem?_getD, List.getElem?_take_of_lt h]

theorem mem_getD_concat {α : Type} {rows : List (List α)} {row : List α} {j : Nat} {x : α} :
    x ∈ (rows ++ [row]).getD j [] ↔ x ∈ rows.getD j [] ∨ (j = rows.length ∧ x ∈ row) := by
  simp only [List.getD_eq_getElem?_getD, List.getElem?_append]
  split
  · simp; omega
  · rename_i h
    rw [List.getElem?_eq_none (Nat.le_of_not_lt h)]
    by_cases e : j = rows.length
    · simp [e]
    · rw [List.getElem?_eq_none (by simp; omega)]; simp [e]

/-- `ins` stands for the sorted or deduplicating insertions of the models: `Rx.insertDedup`,
`Lx.insertNat`, `insertSorted`, `insertByStart`, `Ey.addUnique` -/
theorem mem_foldl_insert {α : Type} {ins : α → List α → List α}
    (h : ∀ x y acc, y ∈ ins x acc ↔ y = x ∨ y ∈ acc) (l acc : List α) (y : α) :
    y ∈ l.foldl (fun acc x => ins x acc) acc ↔ y ∈ l ∨ y ∈ acc := by
  induction l generalizing acc with
  | nil => simp
  | cons x xs ih =>
    simp only [List.foldl_cons, ih, h, List.mem_cons]
    exact or_left_comm.trans or_assoc.symm

theorem filter_eq_singleton {α : Type} {p : α → Bool} {l : List α} {r : α} (h : l.filter p = [r]) :
    r ∈ l ∧ p r = true ∧ ∀ x ∈ l, p x = true → x = r := by
  have hm : ∀ x, x ∈ l ∧ p x = true ↔ x = r := fun x => by
    rw [← List.mem_filter, h, List.mem_singleton]
  exact ⟨((hm r).mpr rfl).1, ((hm r).mpr rfl).2, fun x hx hp => (hm x).mp ⟨hx, hp⟩⟩

theorem foldl_max_le_iff (l : List Nat) (a n : Nat) :
    l.foldl max a ≤ n ↔ a ≤ n ∧ ∀ k ∈ l, k ≤ n := by
  induction l generalizing a with
  | nil => simp
  | cons y ys ih => simp [ih, Nat.max_le, and_assoc]

theorem all_and {α : Type} (A B : α → Bool) : ∀ l : List α, l.all (fun x => A x && B x) = (l.all A && l.all B)
  | [] => rfl
  | x :: xs => by
      simp only [List.all_cons, all_and A B xs]
      ac_rfl

end LlgVerif
