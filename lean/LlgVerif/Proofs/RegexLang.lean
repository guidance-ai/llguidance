/- S2: `lang` constructor by constructor (`star` by counts, `pow`); derivatives are correct w.r.t. it. -/
import LlgVerif.Spec.Regex
namespace LlgVerif
namespace Rx

theorem nullable_iff (r : Rx) : nullable r = true ↔ lang r [] := by
  induction r with
  | empty | eps | set rs => simp [nullable, lang]
  | cat a b iha ihb =>
    simp only [nullable, lang, Bool.and_eq_true, iha, ihb]
    constructor
    · rintro ⟨h1, h2⟩; exact ⟨[], [], rfl, h1, h2⟩
    · rintro ⟨u, v, h, h1, h2⟩
      obtain ⟨rfl, rfl⟩ := List.nil_eq_append_iff.mp h
      exact ⟨h1, h2⟩
  | alt a b iha ihb => simp only [nullable, lang, Bool.or_eq_true, iha, ihb]
  | and a b iha ihb => simp only [nullable, lang, Bool.and_eq_true, iha, ihb]
  | not a iha => simp only [nullable, lang, Bool.not_eq_true', ← iha, Bool.not_eq_true]
  | star a _ =>
    simp only [nullable, lang, true_iff]
    exact ⟨[], rfl, by simp⟩

-- `lang` on one constructor, as rewrite rules: `simp only [lang]` would unfold every regex in sight
theorem lang_alt (a b : Rx) (w : List B) : lang (alt a b) w ↔ lang a w ∨ lang b w := Iff.rfl

theorem lang_cat (a b : Rx) (w : List B) : lang (cat a b) w ↔ ∃ u v, w = u ++ v ∧ lang a u ∧ lang b v := Iff.rfl

theorem lang_cat_eps_left (b : Rx) (w : List B) : lang (cat eps b) w ↔ lang b w := by
  simp only [lang]
  constructor
  · rintro ⟨u, v, h, hu, hv⟩; subst hu; simpa [h] using hv
  · intro h; exact ⟨[], w, rfl, rfl, h⟩

theorem lang_cat_eps_right (a : Rx) (w : List B) : lang (cat a eps) w ↔ lang a w := by
  simp only [lang]
  constructor
  · rintro ⟨u, v, h, hu, hv⟩; subst hv; simpa [h] using hu
  · intro h; exact ⟨w, [], by simp, h, rfl⟩

theorem lang_cat_cons (a c : Rx) (b : B) (w : List B) :
    lang (cat a c) (b :: w) ↔
      (∃ u v, w = u ++ v ∧ lang a (b :: u) ∧ lang c v) ∨ (lang a [] ∧ lang c (b :: w)) := by
  rw [lang_cat]
  constructor
  · rintro ⟨u, v, h, h1, h2⟩
    cases u with
    | nil => exact Or.inr ⟨h1, h ▸ h2⟩
    | cons x u' =>
      obtain ⟨rfl, hw⟩ := List.cons_eq_cons.mp h
      exact Or.inl ⟨u', v, hw, h1, h2⟩
  · rintro (⟨u', v, hw, h1, h2⟩ | ⟨h1, h2⟩)
    · exact ⟨b :: u', v, by rw [hw]; rfl, h1, h2⟩
    · exact ⟨[], b :: w, rfl, h1, h2⟩

theorem lang_star_cons (a : Rx) (b : B) (w : List B) :
    lang (star a) (b :: w) ↔ ∃ u v, w = u ++ v ∧ lang a (b :: u) ∧ lang (star a) v := by
  constructor
  · rintro ⟨ws, hw, hall⟩
    induction ws with
    | nil => cases hw
    | cons x xs ih =>
      cases x with
      | nil => exact ih hw fun u hu => hall u (List.mem_cons_of_mem _ hu)   -- an empty piece: skip it
      | cons c u =>
        obtain ⟨rfl, hw'⟩ := List.cons_eq_cons.mp hw
        exact ⟨u, xs.flatten, hw', hall _ List.mem_cons_self, xs, rfl,
          fun y hy => hall y (List.mem_cons_of_mem _ hy)⟩
  · rintro ⟨u, v, hw, h1, ws, hv, hall⟩
    exact ⟨(b :: u) :: ws, by simp [hw, hv], List.forall_mem_cons.mpr ⟨h1, hall⟩⟩

/-- `n`-fold concatenation of a language -/
def pow (L : List B → Prop) : Nat → List B → Prop
  | 0, w => w = []
  | n + 1, w => ∃ u v, w = u ++ v ∧ L u ∧ pow L n v

theorem lang_star (r : Rx) (w : List B) : lang (star r) w ↔ ∃ c, pow (lang r) c w := by
  simp only [lang]
  constructor
  · rintro ⟨ws, hw, hall⟩
    refine ⟨ws.length, ?_⟩
    induction ws generalizing w with
    | nil => simpa [pow] using hw
    | cons x xs ih =>
      refine ⟨x, xs.flatten, by simpa using hw, hall x List.mem_cons_self, ?_⟩
      exact ih _ rfl (fun u hu => hall u (List.mem_cons_of_mem _ hu))
  · rintro ⟨c, hp⟩
    induction c generalizing w with
    | zero => exact ⟨[], by simpa [pow] using hp, by simp⟩
    | succ c ih =>
      obtain ⟨u, v, hw, hu, hp'⟩ := hp
      obtain ⟨ws, hv, hall⟩ := ih v hp'
      exact ⟨u :: ws, by simp [hw, hv], List.forall_mem_cons.mpr ⟨hu, hall⟩⟩

theorem deriv_iff (r : Rx) (b : B) (w : List B) : lang (deriv r b) w ↔ lang r (b :: w) := by
  induction r generalizing w with
  | empty | eps => simp [deriv, lang]
  | set rs =>
    simp only [deriv, lang, List.cons.injEq]
    split
    · rename_i h; exact ⟨fun hw => ⟨b, ⟨rfl, hw⟩, h⟩, fun ⟨_, hc, _⟩ => hc.2⟩
    · rename_i h; exact ⟨False.elim, fun ⟨c, hc, hs⟩ => h (hc.1 ▸ hs)⟩
  | cat a c iha ihc =>
    rw [lang_cat_cons, ← nullable_iff]
    simp only [deriv]
    split
    · rename_i hn
      simp only [lang, iha, ihc, hn, true_and]
    · rename_i hn
      simp only [lang, iha, hn, Bool.false_eq_true, false_and, or_false]
  | alt a c iha ihc | and a c iha ihc => simp only [deriv, lang, iha, ihc]
  | not a iha => simp only [deriv, lang, iha]
  | star a iha => rw [lang_star_cons]; simp only [deriv, lang, iha]

theorem derivs_iff (r : Rx) (w v : List B) : lang (derivs r w) v ↔ lang r (w ++ v) := by
  induction w generalizing r with
  | nil => rfl
  | cons b w ih => simp only [derivs, ih, deriv_iff, List.cons_append]

end Rx
end LlgVerif
