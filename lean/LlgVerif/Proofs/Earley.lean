/-
The Earley rows model M4.  `Der`/`Seq` are the derivations of the compiled grammar (a nullable flag
read as an ε-rule), `Want` the item sets given by the inference rules the code implements.  Every
item of every row of `runRows` is wanted (`runRows_want`), and wanted items have derivations
(`want_sound`); soundness of the rows and of acceptance are read off.
-/
import LlgVerif.Model.Earley
import LlgVerif.Proofs.ListFacts
namespace LlgVerif
namespace Ey

-- implicit where a hypothesis about `Der`, `Seq`, `Want` or the tables fixes them; explicit in
-- statements about what the model computes from `g` (`runRows g lexs`, ..)
variable {g : CG} {inp : List (List Nat)}

theorem mem_addUnique {l : List Item} {x y : Item} : y ∈ addUnique l x ↔ y ∈ l ∨ y = x := by
  unfold addUnique
  split
  · rename_i h
    have hx : x ∈ l := by simpa using h
    exact ⟨Or.inl, fun h => h.elim id (fun e => e ▸ hx)⟩
  · simp

theorem mem_foldl_addUnique {xs l : List Item} {y : Item} :
    y ∈ xs.foldl addUnique l ↔ y ∈ l ∨ y ∈ xs :=
  (mem_foldl_insert (ins := fun x acc => addUnique acc x) (fun _ _ _ => mem_addUnique.trans or_comm) xs l y).trans
    or_comm

theorem mem_expand_complete {rows : List (List Item)} {cur : Nat} {it x : Item}
    (h0 : g.atDot it.1 = 0) :
    x ∈ expand g rows cur it ↔ it.2 < cur ∧
      ∃ q i, (q, i) ∈ rows.getD it.2 [] ∧ g.atDot q = g.lhs it.1 ∧ x = (q + 1, i) := by
  simp only [expand, h0, ↓reduceIte]
  split
  · rename_i hlt
    simp only [List.mem_map, List.mem_filter, decide_eq_true_eq, Prod.exists, and_assoc,
      @eq_comm _ x, hlt, true_and]
  · rename_i hlt
    simp only [List.not_mem_nil, hlt, false_and]

theorem mem_expand_ne {rows : List (List Item)} {cur : Nat} {it x : Item}
    (hne : g.atDot it.1 ≠ 0) :
    x ∈ expand g rows cur it ↔ (∃ r ∈ (g.sym (g.atDot it.1)).rules, x = (r, cur)) ∨
      ((g.sym (g.atDot it.1)).nullable = true ∧ x = (it.1 + 1, it.2)) := by
  simp only [expand, hne, ↓reduceIte, List.mem_append]
  refine or_congr (by simp only [List.mem_map, @eq_comm _ x]) ?_
  split
  · rename_i hn
    simp only [List.mem_singleton, hn, true_and]
  · rename_i hn
    simp only [List.not_mem_nil, hn, Bool.false_eq_true, false_and]

theorem mem_scanned {row : List Item} {lx : List Nat} {x : Item} :
    x ∈ scanned g row lx ↔
      ∃ p i l, (p, i) ∈ row ∧ (g.sym (g.atDot p)).lexeme = some l ∧ l ∈ lx ∧ x = (p + 1, i) := by
  simp only [scanned, List.mem_map, List.mem_filter, Prod.exists]
  constructor
  · rintro ⟨p, i, ⟨hm, hl⟩, rfl⟩
    split at hl
    · rename_i l hl'
      exact ⟨p, i, l, hm, hl', by simpa using hl, rfl⟩
    · cases hl
  · rintro ⟨p, i, l, hm, hl, hmem, rfl⟩
    exact ⟨p, i, ⟨hm, by simp [hl, hmem]⟩, rfl⟩

theorem mem_allowedLexemes {row : List Item} {l : Nat} :
    l ∈ allowedLexemes g row ↔ ∃ it ∈ row, (g.sym (g.atDot it.1)).lexeme = some l :=
  List.mem_filterMap

theorem closure_induction {rows : List (List Item)} {cur : Nat} {P : Item → Prop}
    (hexp : ∀ it, P it → ∀ x ∈ expand g rows cur it, P x) (fuel i : Nat) (l : List Item)
    (hl : ∀ y ∈ l, P y) : ∀ y ∈ closure g rows cur fuel i l, P y := by
  induction fuel generalizing i l with
  | zero => exact hl
  | succ fuel ih =>
    simp only [closure]
    split
    · exact hl
    · rename_i it hit
      refine ih _ _ fun y hy => ?_
      rcases mem_foldl_addUnique.mp hy with h | h
      · exact hl y h
      · exact hexp it (hl it (List.mem_of_getElem? hit)) y h

theorem closure_subset (g : CG) (rows : List (List Item)) (cur fuel : Nat) :
    ∀ (i : Nat) (l : List Item), ∀ y ∈ l, y ∈ closure g rows cur fuel i l := by
  induction fuel with
  | zero => intro i l y hy; exact hy
  | succ fuel ih =>
    intro i l y hy
    unfold closure
    split
    · exact hy
    · exact ih _ _ y (mem_foldl_addUnique.mpr (.inl hy))

/-- for the lexer slice (`Lx.advance_isSome`): a set with a lexeme the last row allows scans -/
theorem nextRow_ne (g : CG) (rows : List (List Item)) (S : List Nat) (l : Nat) (hl : l ∈ S)
    (hal : l ∈ allowedLexemes g (rows.getD (rows.length - 1) [])) : nextRow g rows S ≠ [] := by
  obtain ⟨it, hit, hlex⟩ := mem_allowedLexemes.mp hal
  have hmem := mem_scanned.mpr ⟨it.1, it.2, l, hit, hlex, hl, rfl⟩
  exact List.ne_nil_of_mem (closure_subset g rows _ _ 0 _ _ (mem_foldl_addUnique.mpr (.inr hmem)))

theorem runRows_snoc (g : CG) (lexs : List (List Nat)) (lx : List Nat) :
    runRows g (lexs ++ [lx]) = runRows g lexs ++ [nextRow g (runRows g lexs) lx] := by
  simp [runRows, List.foldl_append]

theorem runRows_len (g : CG) (lexs : List (List Nat)) : (runRows g lexs).length = lexs.length + 1 := by
  induction lexs using snoc_induction with
  | nil => rfl
  | snoc lexs lx ih => simp [runRows_snoc, ih]

theorem accepting_iff {rows : List (List Item)} :
    accepting g rows = true ↔
      ∃ p, (p, 0) ∈ rows.getD (rows.length - 1) [] ∧ g.atDot p = 0 ∧ g.lhs p = g.start := by
  simp only [accepting, List.any_eq_true, Bool.and_eq_true, decide_eq_true_eq, Prod.exists]
  constructor
  · rintro ⟨p, i, hm, ⟨h0, rfl⟩, hl⟩; exact ⟨p, hm, h0, hl⟩
  · rintro ⟨p, hm, h0, hl⟩; exact ⟨p, 0, hm, ⟨h0, rfl⟩, hl⟩

/-- what `CG.wf` checks (`wf_of_check`) -/
structure WF (g : CG) : Prop where
  null_rules : (g.sym 0).rules = []
  null_lexeme : (g.sym 0).lexeme = none
  null_nullable : (g.sym 0).nullable = false
  lhs_rule : ∀ s, s < g.syms.size → ∀ r ∈ (g.sym s).rules, g.lhs r = s
  lhs_next : ∀ p, p < g.rhs.size → g.atDot p ≠ 0 → g.lhs (p + 1) = g.lhs p

theorem wf_of_check (g : CG) (h : g.wf = true) : WF g := by
  unfold CG.wf at h
  simp only [Bool.and_eq_true, List.all_eq_true, List.mem_range, beq_iff_eq, Bool.or_eq_true,
    Bool.not_eq_eq_eq_not, Bool.not_true, List.isEmpty_iff, Option.isNone_iff_eq_none] at h
  obtain ⟨⟨⟨⟨h1, h2⟩, h3⟩, h4⟩, h5⟩ := h
  exact ⟨h1, h2, h3, h4, fun p hp hne => (h5 p hp).resolve_left hne⟩

/- Symbols and positions outside the tables are inert, so the range hypotheses of `WF` fall away
   where a rule, a flag or a symbol after the dot is at hand. -/

theorem sym_out_of_range {s : Nat} (h : ¬ s < g.syms.size) : g.sym s = default := by
  unfold CG.sym
  simp [Array.getD, h]

theorem atDot_out_of_range {p : Nat} (h : ¬ p < g.rhs.size) : g.atDot p = 0 := by
  unfold CG.atDot
  simp [Array.getD, h]

theorem sym_lt_of_rule {s r : Nat} (h : r ∈ (g.sym s).rules) : s < g.syms.size :=
  Decidable.by_contra fun hs => by rw [sym_out_of_range hs] at h; cases h

theorem sym_lt_of_nullable {s : Nat} (h : (g.sym s).nullable = true) : s < g.syms.size :=
  Decidable.by_contra fun hs => by rw [sym_out_of_range hs] at h; cases h

theorem atDot_lt {p : Nat} (h : g.atDot p ≠ 0) : p < g.rhs.size :=
  Decidable.by_contra fun hp => h (atDot_out_of_range hp)

theorem WF.lhs_of_rule (hw : WF g) {s r : Nat} (h : r ∈ (g.sym s).rules) : g.lhs r = s :=
  hw.lhs_rule s (sym_lt_of_rule h) r h

theorem WF.lhs_succ (hw : WF g) {p : Nat} (h : g.atDot p ≠ 0) : g.lhs (p + 1) = g.lhs p :=
  hw.lhs_next p (atDot_lt h) h

theorem WF.rule_ne (hw : WF g) {s r : Nat} (h : r ∈ (g.sym s).rules) : s ≠ 0 := by
  rintro rfl; rw [hw.null_rules] at h; cases h

theorem WF.lexeme_ne (hw : WF g) {s l : Nat} (h : (g.sym s).lexeme = some l) : s ≠ 0 := by
  rintro rfl; rw [hw.null_lexeme] at h; cases h

theorem mem_rhsFrom {fuel r x : Nat} (h : x ∈ g.rhsFrom fuel r) :
    ∃ q, r ≤ q ∧ x = g.atDot q ∧ ∀ q', r ≤ q' → q' ≤ q → g.atDot q' ≠ 0 := by
  induction fuel generalizing r with
  | zero => cases h
  | succ fuel ih =>
    unfold CG.rhsFrom at h
    split at h
    · cases h
    · rename_i hne
      rcases List.mem_cons.mp h with h | h
      · exact ⟨r, Nat.le_refl _, h, fun q' h1 h2 => Nat.le_antisymm h2 h1 ▸ hne⟩
      · obtain ⟨q, h1, h2, h3⟩ := ih h
        refine ⟨q, by omega, h2, fun q' h4 h5 => ?_⟩
        rcases Nat.eq_or_lt_of_le h4 with rfl | h4
        · exact hne
        · exact h3 q' h4 h5

/-- walking along a rule: a property of positions that passes over every symbol `rhsFrom` lists
reaches the terminating 0 -/
theorem rhsFrom_walk {S A : Nat → Prop}
    (step : ∀ q, S q → g.atDot q ≠ 0 → A (g.atDot q) → S (q + 1)) :
    ∀ fuel r, g.rhs.size ≤ fuel + r → S r → (∀ x ∈ g.rhsFrom fuel r, A x) →
      ∃ p, S p ∧ g.atDot p = 0 := by
  intro fuel
  induction fuel with
  | zero => intro r hr hs _; exact ⟨r, hs, atDot_out_of_range (by omega)⟩
  | succ fuel ih =>
    intro r hr hs hall
    unfold CG.rhsFrom at hall
    split at hall
    · rename_i h0; exact ⟨r, hs, h0⟩
    · rename_i hne
      exact ih (r + 1) (by omega) (step r hs hne (hall _ List.mem_cons_self))
        (fun x hx => hall x (List.mem_cons_of_mem _ hx))

mutual
/-- symbol `s` derives the lexeme sets `inp[i..j)` -/
inductive Der (g : CG) (inp : List (List Nat)) : Nat → Nat → Nat → Prop where
  | lex {s i l} : (g.sym s).lexeme = some l → l ∈ inp.getD i [] → i < inp.length → Der g inp s i (i + 1)
  | null {s i} : (g.sym s).nullable = true → Der g inp s i i
  | rule {s r p i j} : r ∈ (g.sym s).rules → Seq g inp r p i j → g.atDot p = 0 → Der g inp s i j
/-- the symbols at positions `r .. p-1` derive `inp[i..j)` -/
inductive Seq (g : CG) (inp : List (List Nat)) : Nat → Nat → Nat → Nat → Prop where
  | nil {r i} : Seq g inp r r i i
  | snoc {r p i k j} : Seq g inp r p i k → g.atDot p ≠ 0 → Der g inp (g.atDot p) k j → Seq g inp r (p + 1) i j
end

/-- the compiled grammar accepts `inp`: a rule of the start symbol derives all of it -/
def Accepts (g : CG) (inp : List (List Nat)) : Prop :=
  ∃ r ∈ (g.sym g.start).rules, ∃ p, Seq g inp r p 0 inp.length ∧ g.atDot p = 0

mutual
theorem der_le {s i j : Nat} : Der g inp s i j → i ≤ j
  | .lex _ _ _ => Nat.le_succ _
  | .null _ => Nat.le_refl _
  | .rule _ hs _ => seq_le hs
theorem seq_le {r p i j : Nat} : Seq g inp r p i j → i ≤ j
  | .nil => Nat.le_refl _
  | .snoc hs _ hd => Nat.le_trans (seq_le hs) (der_le hd)
end

theorem seq_pos_le {r p i j : Nat} : Seq g inp r p i j → r ≤ p
  | .nil => Nat.le_refl _
  | .snoc hs _ _ => Nat.le_succ_of_le (seq_pos_le hs)

theorem seq_lhs (hw : WF g) {r p i j : Nat} : Seq g inp r p i j → g.lhs p = g.lhs r
  | .nil => rfl
  | .snoc hs hne _ => (hw.lhs_succ hne).trans (seq_lhs hw hs)

theorem Accepts.der (h : Accepts g inp) : Der g inp g.start 0 inp.length :=
  let ⟨_, hr, _, hs, h0⟩ := h
  Der.rule hr hs h0

mutual
theorem der_local {g : CG} {inp inp' : List (List Nat)} {s i j : Nat} :
    Der g inp s i j → (∀ k, k < j → inp'.getD k [] = inp.getD k []) → j ≤ inp'.length → Der g inp' s i j
  | .lex hl hm _ => fun h hlen => Der.lex hl (by rw [h _ (Nat.lt_succ_self _)]; exact hm) hlen
  | .null hn => fun _ _ => Der.null hn
  | .rule hr hs hd => fun h hlen => Der.rule hr (seq_local hs h hlen) hd
theorem seq_local {g : CG} {inp inp' : List (List Nat)} {r p i j : Nat} :
    Seq g inp r p i j → (∀ k, k < j → inp'.getD k [] = inp.getD k []) → j ≤ inp'.length → Seq g inp' r p i j
  | .nil => fun _ _ => Seq.nil
  | .snoc hs hne hd => fun h hlen =>
      have hkj := der_le hd
      Seq.snoc (seq_local hs (fun k hk => h k (by omega)) (by omega)) hne (der_local hd h hlen)
end

/-- The item sets, by the inference rules the code implements: start, prediction, nullable advance,
scan, completion over *earlier* rows only. -/
inductive Want (g : CG) (inp : List (List Nat)) : Nat → Item → Prop where
  | start {r} : r ∈ (g.sym g.start).rules → Want g inp 0 (r, 0)
  | predict {j p i r} : Want g inp j (p, i) → g.atDot p ≠ 0 → r ∈ (g.sym (g.atDot p)).rules →
      Want g inp j (r, j)
  | nullable {j p i} : Want g inp j (p, i) → g.atDot p ≠ 0 → (g.sym (g.atDot p)).nullable = true →
      Want g inp j (p + 1, i)
  | scan {j p i l} : Want g inp j (p, i) → (g.sym (g.atDot p)).lexeme = some l → l ∈ inp.getD j [] →
      j < inp.length → Want g inp (j + 1) (p + 1, i)
  | complete {j p k q i} : Want g inp j (p, k) → g.atDot p = 0 → k < j → Want g inp k (q, i) →
      g.atDot q = g.lhs p → Want g inp j (q + 1, i)

theorem want_row_le {j : Nat} {it : Item} (h : Want g inp j it) :
    j ≤ inp.length := by
  induction h with
  | start _ => exact Nat.zero_le _
  | scan _ _ _ hlt _ => exact hlt
  | predict _ _ _ ih => exact ih
  | nullable _ _ _ ih => exact ih
  | complete _ _ _ _ _ ih _ => exact ih

theorem want_local {inp' : List (List Nat)} {j : Nat} {it : Item} (h : Want g inp j it) :
    (∀ k, k < j → inp'.getD k [] = inp.getD k []) → j ≤ inp'.length → Want g inp' j it := by
  induction h with
  | start hr => intro _ _; exact Want.start hr
  | predict _ hne hr ih => intro h1 h2; exact Want.predict (ih h1 h2) hne hr
  | nullable _ hne hn ih => intro h1 h2; exact Want.nullable (ih h1 h2) hne hn
  | @scan j p i l _ hl hm hlt ih =>
    intro h1 h2
    exact Want.scan (ih (fun k hk => h1 k (by omega)) (by omega)) hl
      (by rw [h1 j (Nat.lt_succ_self _)]; exact hm) (by omega)
  | @complete j p k q i _ hdot hk _ hq ih1 ih2 =>
    intro h1 h2
    exact Want.complete (ih1 h1 h2) hdot hk (ih2 (fun k' hk' => h1 k' (by omega)) (by omega)) hq

theorem want_append {j : Nat} {it : Item} (x : List (List Nat))
    (h : Want g inp j it) : Want g (inp ++ x) j it :=
  have := want_row_le h
  want_local h (fun _ hk => getD_append_left _ _ _ (by omega)) (by simp; omega)

/-- the invariant of an item `(p, i)` of row `j`: the symbols of its rule before `p` derive
`inp[i..j)` -/
def ItemOK (g : CG) (inp : List (List Nat)) (j : Nat) (it : Item) : Prop :=
  it.2 ≤ j ∧ ∃ r, r ∈ (g.sym (g.lhs it.1)).rules ∧ Seq g inp r it.1 it.2 j

theorem ItemOK.le {j : Nat} {it : Item} (h : ItemOK g inp j it) : it.2 ≤ j := h.1

theorem ItemOK.seq {j : Nat} {it : Item} (h : ItemOK g inp j it) :
    ∃ r ∈ (g.sym (g.lhs it.1)).rules, Seq g inp r it.1 it.2 j := h.2

theorem ItemOK.rule (hw : WF g) {s r : Nat} (j : Nat)
    (hr : r ∈ (g.sym s).rules) : ItemOK g inp j (r, j) :=
  ⟨Nat.le_refl _, r, by rw [hw.lhs_of_rule hr]; exact hr, Seq.nil⟩

theorem ItemOK.step (hw : WF g) {p i k j : Nat}
    (h : ItemOK g inp k (p, i)) (hne : g.atDot p ≠ 0) (hd : Der g inp (g.atDot p) k j) :
    ItemOK g inp j (p + 1, i) :=
  let ⟨r, hr, hs⟩ := h.seq
  ⟨Nat.le_trans h.le (der_le hd), r, by rw [hw.lhs_succ hne]; exact hr, Seq.snoc hs hne hd⟩

theorem want_sound (hw : WF g) {j : Nat} {it : Item}
    (h : Want g inp j it) : ItemOK g inp j it := by
  induction h with
  | start hr => exact ItemOK.rule hw 0 hr
  | predict _ _ hr => exact ItemOK.rule hw _ hr
  | nullable _ hne hn ih => exact ih.step hw hne (Der.null hn)
  | scan _ hl hm hlt ih => exact ih.step hw (hw.lexeme_ne hl) (Der.lex hl hm hlt)
  | complete _ hdot _ _ hq ih1 ih2 =>
    obtain ⟨r, hr, hs⟩ := ih1.seq
    exact ih2.step hw (hq ▸ hw.rule_ne hr) (hq ▸ Der.rule hr hs hdot)

theorem expand_want {rows : List (List Item)} {cur : Nat}
    (hrows : ∀ k, k < cur → ∀ y ∈ rows.getD k [], Want g inp k y) (it : Item)
    (hit : Want g inp cur it) : ∀ x ∈ expand g rows cur it, Want g inp cur x := by
  intro x hx
  by_cases h0 : g.atDot it.1 = 0
  · obtain ⟨hlt, q, i, hq, hd, rfl⟩ := (mem_expand_complete h0).mp hx
    exact Want.complete hit h0 hlt (hrows _ hlt _ hq) hd
  · rcases (mem_expand_ne h0).mp hx with ⟨r, hr, rfl⟩ | ⟨hn, rfl⟩
    · exact Want.predict hit h0 hr
    · exact Want.nullable hit h0 hn

/-- a row is the closure of its seed items (the start rules, or the scanned items) -/
theorem row_want {rows : List (List Item)} {cur fuel : Nat}
    {seed : List Item} (hrows : ∀ k, k < cur → ∀ y ∈ rows.getD k [], Want g inp k y)
    (hseed : ∀ y ∈ seed, Want g inp cur y) :
    ∀ y ∈ closure g rows cur fuel 0 (seed.foldl addUnique []), Want g inp cur y :=
  closure_induction (expand_want hrows) _ _ _ fun y hy =>
    hseed y ((mem_foldl_addUnique.mp hy).resolve_left List.not_mem_nil)

theorem initRow_want (g : CG) (inp : List (List Nat)) : ∀ y ∈ initRow g, Want g inp 0 y :=
  row_want (fun k hk => absurd hk (Nat.not_lt_zero k)) fun y hy => by
    obtain ⟨r, hr, rfl⟩ := List.mem_map.mp hy
    exact Want.start hr

theorem runRows_want (g : CG) (lexs : List (List Nat)) {j : Nat} {it : Item}
    (hit : it ∈ (runRows g lexs).getD j []) : Want g lexs j it := by
  induction lexs using snoc_induction generalizing j it with
  | nil =>
    cases j with
    | zero =>
      -- rewritten, not unified: asked whether `initRow g` is `(runRows g []).getD 0 []`, Lean unfolds `initRow`
      rw [runRows, List.foldl_nil, List.getD_cons_zero] at hit
      exact initRow_want g [] it hit
    | succ j => cases hit
  | snoc lexs lx ih =>
    have hlen := runRows_len g lexs
    have ih' : ∀ j, ∀ it ∈ (runRows g lexs).getD j [], Want g (lexs ++ [lx]) j it :=
      fun _ _ hit => want_append _ (ih hit)
    rw [runRows_snoc, mem_getD_concat] at hit
    rcases hit with hit | ⟨rfl, hit⟩
    · exact ih' j it hit
    · refine row_want (fun k _ => ih' k) (fun y hy => ?_) it hit
      obtain ⟨p, i, l, hm, hl, hmem, rfl⟩ := mem_scanned.mp hy
      rw [hlen] at hm ⊢
      exact Want.scan (ih' _ _ hm) hl (by simpa using hmem) (by simp)

def RowsOK (g : CG) (inp : List (List Nat)) (rows : List (List Item)) : Prop :=
  ∀ j, j < rows.length → ∀ it ∈ rows.getD j [], ItemOK g inp j it

theorem runRows_ok (g : CG) (hw : WF g) (lexs : List (List Nat)) : RowsOK g lexs (runRows g lexs) :=
  fun _ _ _ hit => want_sound hw (runRows_want g lexs hit)

theorem accepts_of_accepting (g : CG) (hw : WF g) (lexs : List (List Nat))
    (h : accepting g (runRows g lexs) = true) : Accepts g lexs := by
  obtain ⟨p, hm, h0, hl⟩ := accepting_iff.mp h
  rw [runRows_len] at hm
  obtain ⟨r, hr, hs⟩ := (want_sound hw (runRows_want g lexs hm)).seq
  exact ⟨r, hl ▸ hr, p, hs, h0⟩

theorem accepting_sound (g : CG) (hw : WF g) (lexs : List (List Nat))
    (h : accepting g (runRows g lexs) = true) : Der g lexs g.start 0 lexs.length :=
  (accepts_of_accepting g hw lexs h).der

end Ey
end LlgVerif
