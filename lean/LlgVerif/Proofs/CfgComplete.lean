/-
Completeness of the chart recogniser at a closed chart (`chart_complete`) and, with soundness, the
theorem of S4 (`chart_correct`).
-/
import LlgVerif.Proofs.CfgChart
namespace LlgVerif
namespace Cfg

variable {N : Type}

theorem mem_suffixes {α : Type} (l w : List α) : l ∈ suffixes w ↔ l <:+ w := by
  induction w with
  | nil => simp [suffixes]
  | cons a w ih =>
    simp only [suffixes, List.mem_cons, ih, List.suffix_cons_iff]

theorem mem_prefixes {α : Type} (l w : List α) : l ∈ prefixes w ↔ l <+: w := by
  induction w generalizing l with
  | nil => simp [prefixes]
  | cons a w ih =>
    simp only [prefixes, List.mem_cons, List.mem_map, ih, List.prefix_cons_iff]
    exact or_congr Iff.rfl (exists_congr fun m => ⟨fun ⟨h, e⟩ => ⟨e.symm, h⟩, fun ⟨e, h⟩ => ⟨h, e.symm⟩⟩)

theorem mem_infixes {α : Type} (l w : List α) : l ∈ infixes w ↔ l <:+: w := by
  simp only [infixes, List.mem_flatMap, mem_suffixes, mem_prefixes]
  constructor
  · rintro ⟨s, hs, hl⟩
    exact List.IsInfix.trans hl.isInfix hs.isInfix
  · rintro ⟨p, q, h⟩
    refine ⟨l ++ q, ⟨p, by rw [← h]; simp⟩, List.prefix_append l q⟩

theorem mem_forms {G : Gram N} {start : List (List (Sym N))} {α : List (Sym N)} :
    α ∈ forms G start ↔ (∃ β ∈ start, α <:+ β) ∨ ∃ r ∈ G, α <:+ r.2 := by
  simp only [forms, List.mem_append, List.mem_flatMap, mem_suffixes]

theorem forms_tail {G : Gram N} {start : List (List (Sym N))} {s : Sym N} {α : List (Sym N)}
    (h : s :: α ∈ forms G start) : α ∈ forms G start :=
  mem_forms.mpr <| (mem_forms.mp h).imp
    (fun ⟨β, hβ, hs⟩ => ⟨β, hβ, (List.suffix_cons s α).trans hs⟩)
    (fun ⟨r, hr, hs⟩ => ⟨r, hr, (List.suffix_cons s α).trans hs⟩)

theorem forms_rhs {G : Gram N} {start : List (List (Sym N))} {a : N} {β : List (Sym N)}
    (h : (a, β) ∈ G) : β ∈ forms G start :=
  mem_forms.mpr (.inr ⟨(a, β), h, List.suffix_refl β⟩)

theorem forms_start {G : Gram N} {start : List (List (Sym N))} {α : List (Sym N)}
    (h : α ∈ start) : α ∈ forms G start :=
  mem_forms.mpr (.inl ⟨α, h, List.suffix_refl α⟩)

theorem mem_univ [DecidableEq N] (G : Gram N) (start : List (List (Sym N))) (w : List B) (α : List (Sym N)) (x : List B) :
    (α, x) ∈ univ G start w ↔ α ∈ forms G start ∧ x <:+: w := by
  simp only [univ, List.mem_flatMap, List.mem_map, Prod.mk.injEq, ← mem_infixes, List.mem_eraseDups]
  constructor
  · rintro ⟨β, hβ, y, hy, rfl, rfl⟩; exact ⟨hβ, hy⟩
  · rintro ⟨h1, h2⟩; exact ⟨α, h1, x, h2, rfl, rfl⟩

-- `Chart` needs both instances
variable [DecidableEq N] [Hashable N]

theorem closed_spec (G : Gram N) (U : List (Fact N)) (c : Chart N) (h : closed G U c = true)
    (f : Fact N) (hf : f ∈ U) (hi : infer G c f = true) : c.contains f = true := by
  simp only [closed, List.all_eq_true, Bool.or_eq_true, Bool.not_eq_eq_eq_not, Bool.not_true] at h
  rcases h f hf with h | h
  · rw [hi] at h; cases h
  · exact h

theorem chart_complete (G : Gram N) (start : List (List (Sym N))) (w : List B) (c : Chart N)
    (hcl : closed G (univ G start w) c = true) (α : List (Sym N)) (x : List B) (hd : DL G α x)
    (hα : α ∈ forms G start) (hx : x <:+: w) : c.contains (α, x) = true := by
  have put : ∀ {α x}, α ∈ forms G start → x <:+: w → infer G c (α, x) = true →
      c.contains (α, x) = true :=
    fun hα hx => closed_spec G _ c hcl _ ((mem_univ G start w _ _).mpr ⟨hα, hx⟩)
  induction hd with
  | nil => exact put hα hx (infer_nil.mpr rfl)
  | @t lo hi b α x' h1 h2 _ ih =>
    have hx' : x' <:+: w := (List.suffix_cons b x').isInfix.trans hx
    exact put hα hx (infer_t.mpr ⟨b, x', rfl, h1, h2, ih (forms_tail hα) hx'⟩)
  | @nt a β α u v hr _ _ ih1 ih2 =>
    have hu : u <:+: w := (List.prefix_append u v).isInfix.trans hx
    have hv : v <:+: w := (List.suffix_append u v).isInfix.trans hx
    exact put hα hx
      (infer_nt.mpr ⟨β, u, v, hr, rfl, ih1 (forms_rhs hr) hu, ih2 (forms_tail hα) hv⟩)

/-- **S4 recogniser.**  When `chart?` returns a chart for `w`, membership in it decides derivability
for every form of the universe and every infix of `w`. -/
theorem chart_correct (G : Gram N) (start : List (List (Sym N))) (w : List B) (fuel : Nat) (c : Chart N)
    (h : chart? G start w fuel = some c) (α : List (Sym N)) (x : List B)
    (hα : α ∈ forms G start) (hx : x <:+: w) :
    c.contains (α, x) = true ↔ DL G α x :=
  ⟨chart_sound G start w fuel c h (α, x),
   fun hd => chart_complete G start w c (chart?_eq_some.mp h).2 α x hd hα hx⟩

end Cfg
end LlgVerif
