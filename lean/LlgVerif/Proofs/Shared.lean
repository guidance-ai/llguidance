/- Shared state table (`Model/Shared.lean`): the table only grows, and an atomic step changes only the
stepping clone's view. -/
import LlgVerif.Model.Shared
namespace LlgVerif

variable {C : Type} [DecidableEq C]

theorem intern_spec (tbl : List C) (c : C) :
    (intern tbl c).2[(intern tbl c).1]? = some c ∧ ∃ ext, (intern tbl c).2 = tbl ++ ext := by
  unfold intern
  simp only
  split
  · rename_i h
    exact ⟨by rw [List.getElem?_eq_getElem h, List.getElem_idxOf], [], (List.append_nil _).symm⟩
  · exact ⟨List.getElem?_concat_length, [c], rfl⟩

/-- the view of the clones: the content each clone's id denotes -/
def views (st : List C × List Nat) : List (Option C) := st.2.map (fun q => st.1[q]?)

/-- every clone's id denotes a content (written out in the statements of `Props/C14.lean`) -/
def IdsValid (st : List C × List Nat) : Prop :=
  ∀ (j q : Nat), st.2[j]? = some q → ∃ c, st.1[q]? = some c

variable (delta : C → Nat → C)

theorem sharedStep_of_none {st : List C × List Nat} {op : Nat × Nat}
    (hi : st.2[op.1]? = none) : sharedStep delta st op = st := by
  simp only [sharedStep, hi]

theorem sharedStep_of_some {st : List C × List Nat} {op : Nat × Nat}
    {q : Nat} {c : C} (hi : st.2[op.1]? = some q) (hc : st.1[q]? = some c) :
    sharedStep delta st op =
      ((intern st.1 (delta c op.2)).2, st.2.set op.1 (intern st.1 (delta c op.2)).1) := by
  simp only [sharedStep, hi, hc]

theorem sharedStep_table (st : List C × List Nat) (op : Nat × Nat) :
    ∃ ext, (sharedStep delta st op).1 = st.1 ++ ext := by
  cases hi : st.2[op.1]? with
  | none => exact ⟨[], by rw [sharedStep_of_none delta hi, List.append_nil]⟩
  | some q =>
    cases hc : st.1[q]? with
    | none => -- an id that denotes nothing (what `IdsValid` excludes): the step does nothing
      exact ⟨[], by simp only [sharedStep, hi, hc, List.append_nil]⟩
    | some c => rw [sharedStep_of_some delta hi hc]; exact (intern_spec _ _).2

theorem sharedStep_views (st : List C × List Nat) (op : Nat × Nat)
    (hwf : IdsValid st) (j : Nat) :
    (views (sharedStep delta st op))[j]? =
      if op.1 = j then ((views st)[j]?).map (fun v => v.map (fun c => delta c op.2))
      else (views st)[j]? := by
  cases hi : st.2[op.1]? with
  | none =>
    rw [sharedStep_of_none delta hi]
    split
    · rename_i hj
      simp only [views, List.getElem?_map, ← hj, hi, Option.map_none]
    · rfl
  | some q =>
    obtain ⟨c, hc⟩ := hwf _ q hi
    obtain ⟨h1, ext, h2⟩ := intern_spec st.1 (delta c op.2)
    rw [sharedStep_of_some delta hi hc]
    simp only [views, List.getElem?_map, List.getElem?_set]
    by_cases hj : op.1 = j
    · subst hj
      have hlt : op.1 < st.2.length := (List.getElem?_eq_some_iff.mp hi).1
      simp only [↓reduceIte, hlt, Option.map_some, h1, hi, hc]
    · rw [if_neg hj, if_neg hj, h2]
      refine Option.map_congr fun q' hq => ?_
      obtain ⟨c', hc'⟩ := hwf j q' hq
      exact List.getElem?_append_left (List.getElem?_eq_some_iff.mp hc').1

omit [DecidableEq C] in
theorem idsValid_iff_views (st : List C × List Nat) :
    IdsValid st ↔ ∀ j : Nat, (views st)[j]? ≠ some none := by
  unfold IdsValid
  simp only [views, List.getElem?_map, ne_eq, Option.map_eq_some_iff, not_exists, not_and,
    Option.ne_none_iff_exists']

theorem sharedStep_wf (st : List C × List Nat) (op : Nat × Nat) (hwf : IdsValid st) :
    IdsValid (sharedStep delta st op) := by
  rw [idsValid_iff_views]
  intro j h
  rw [sharedStep_views delta st op hwf j] at h
  rw [idsValid_iff_views] at hwf
  split at h
  · obtain ⟨v, hv, hn⟩ := Option.map_eq_some_iff.mp h
    exact hwf j (Option.map_eq_none_iff.mp hn ▸ hv)
  · exact hwf j h

omit [DecidableEq C] in
theorem privateRun_cons (c0 : C) (j : Nat) (op : Nat × Nat)
    (ops : List (Nat × Nat)) :
    privateRun delta c0 j (op :: ops) =
      privateRun delta (if op.1 = j then delta c0 op.2 else c0) j ops := by
  simp only [privateRun, List.filter_cons]
  split <;> simp_all

end LlgVerif
