/- S2: a DFA certificate accepted by `Dfa.check` decides membership and viability. -/
import LlgVerif.Proofs.RegexNorm
namespace LlgVerif
namespace Dfa
open Rx

theorem mem_allBytes (b : B) : b ∈ allBytes := by
  unfold allBytes
  rw [List.mem_map]
  exact ⟨b.toNat, List.mem_range.mpr (UInt8.toNat_lt b), by simp⟩

/-- `check` spelt out.  The array sizes keep the `!` lookups of the executable check inside the arrays;
no proof below needs them. -/
theorem check_iff {r : Rx} {d : Dfa} : check r d = true ↔
    (0 < d.states.size ∧ d.states[0]! = r) ∧
    (d.trans.size = d.states.size ∧ d.acc.size = d.states.size ∧
      d.live.size = d.states.size ∧ d.rank.size = d.states.size) ∧
    ∀ q, q < d.states.size →
      (d.trans[q]!).size = 256 ∧ d.acc[q]! = nullable d.states[q]! ∧
      (∀ b : B, next d q b < d.states.size ∧ d.states[next d q b]! = derivN d.states[q]! b) ∧
      (if d.live[q]! = true then
         d.acc[q]! = true ∨ ∃ b : B, d.live[next d q b]! = true ∧ d.rank[next d q b]! < d.rank[q]!
       else d.acc[q]! = false ∧ ∀ b : B, d.live[next d q b]! = false) := by
  simp only [check, Bool.and_eq_true, decide_eq_true_eq, beq_iff_eq, List.all_eq_true, List.any_eq_true,
    List.mem_range, mem_allBytes, true_and, forall_const, Bool.or_eq_true, Bool.ite_eq_true_distrib,
    Bool.not_eq_eq_eq_not, Bool.not_true, and_assoc, gt_iff_lt]

/-- what the proofs use of a checked certificate.  `acc_live` and `live_back` are the clause of `check`
for a state flagged dead (it does not accept, its successors are dead), read backwards. -/
structure Good (r : Rx) (d : Dfa) : Prop where
  pos : 0 < d.states.size
  init : d.states[0]! = r
  acc_ok : ∀ q, q < d.states.size → d.acc[q]! = nullable d.states[q]!
  step_ok : ∀ q, q < d.states.size → ∀ b : B,
    next d q b < d.states.size ∧ d.states[next d q b]! = derivN d.states[q]! b
  live_ok : ∀ q, q < d.states.size → d.live[q]! = true →
    d.acc[q]! = true ∨ ∃ b : B, d.live[next d q b]! = true ∧ d.rank[next d q b]! < d.rank[q]!
  acc_live : ∀ q, q < d.states.size → d.acc[q]! = true → d.live[q]! = true
  live_back : ∀ q, q < d.states.size → ∀ b : B, d.live[next d q b]! = true → d.live[q]! = true

theorem good_of_check {r : Rx} {d : Dfa} (h : check r d = true) : Good r d := by
  obtain ⟨⟨hpos, hinit⟩, _, hall⟩ := check_iff.mp h
  refine ⟨hpos, hinit, fun q hq => ?_, fun q hq => ?_, fun q hq hl => ?_, fun q hq ha => ?_,
    fun q hq b hb => ?_⟩
  all_goals obtain ⟨_, hacc, hstep, hclause⟩ := hall q hq
  · exact hacc
  · exact hstep
  · rwa [if_pos hl] at hclause
  · refine eq_true_of_ne_false fun hl => ?_
    rw [if_neg (ne_true_of_eq_false hl), ha] at hclause
    cases hclause.1
  · refine eq_true_of_ne_false fun hl => ?_
    rw [if_neg (ne_true_of_eq_false hl)] at hclause
    exact ne_true_of_eq_false (hclause.2 b) hb

theorem run_append (d : Dfa) (q : Nat) (w v : List B) : run d q (w ++ v) = run d (run d q w) v := by
  induction w generalizing q with
  | nil => rfl
  | cons b w ih => simp only [List.cons_append, run, ih]

variable {r : Rx} {d : Dfa}

theorem Good.run_state (g : Good r d) {q : Nat} (hq : q < d.states.size) (w : List B) :
    run d q w < d.states.size ∧ d.states[run d q w]! = derivsN d.states[q]! w := by
  induction w generalizing q with
  | nil => exact ⟨hq, rfl⟩
  | cons b w ih =>
    obtain ⟨h1, h2⟩ := g.step_ok q hq b
    simp only [run, derivsN, ← h2]
    exact ih h1

theorem Good.acc_run (g : Good r d) {q : Nat} (hq : q < d.states.size) (w : List B) :
    d.acc[run d q w]! = true ↔ lang d.states[q]! w := by
  obtain ⟨hlt, hst⟩ := g.run_state hq w
  rw [g.acc_ok _ hlt, hst, nullable_iff, derivsN_iff, List.append_nil]

theorem Good.live_of_run (g : Good r d) {q : Nat} (hq : q < d.states.size) (v : List B)
    (h : d.live[run d q v]! = true) : d.live[q]! = true := by
  induction v generalizing q with
  | nil => exact h
  | cons b v ih => exact g.live_back q hq b (ih (g.step_ok q hq b).1 h)

theorem Good.live_iff (g : Good r d) {q : Nat} (hq : q < d.states.size) :
    d.live[q]! = true ↔ ∃ v, d.acc[run d q v]! = true := by
  constructor
  · -- by induction on the rank, which falls along the live successor
    intro hl
    induction hn : d.rank[q]! using Nat.strongRecOn generalizing q with
    | _ n ih =>
      rcases g.live_ok q hq hl with h | ⟨b, h1, h2⟩
      · exact ⟨[], h⟩
      · obtain ⟨v, hv⟩ := ih _ (hn ▸ h2) (g.step_ok q hq b).1 h1 rfl
        exact ⟨b :: v, hv⟩
  · rintro ⟨v, h⟩
    exact g.live_of_run hq v (g.acc_live _ (g.run_state hq v).1 h)

theorem Good.live_run (g : Good r d) {q : Nat} (hq : q < d.states.size) (w : List B) :
    d.live[run d q w]! = true ↔ ∃ v, lang d.states[q]! (w ++ v) := by
  simp only [g.live_iff (g.run_state hq w).1, ← run_append, g.acc_run hq]

theorem dfa_decides (h : check r d = true) (w : List B) :
    (accepts d w = true ↔ lang r w) ∧ (viable d w = true ↔ ∃ v, lang r (w ++ v)) := by
  have g := good_of_check h
  have h0 := g.init
  exact ⟨by rw [← h0]; exact g.acc_run g.pos w, by rw [← h0]; exact g.live_run g.pos w⟩

end Dfa
end LlgVerif
