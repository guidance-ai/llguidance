/- Each `SimpleVob` operation, read through `get`, is the corresponding operation on sets of
   naturals (M1).  `get` is totalised by `false` beyond the storage. -/
import LlgVerif.Proofs.Svob
namespace LlgVerif
namespace Svob

/-- a Rust assert in front of an operation is `if c then some x else none` in the model -/
theorem of_assert {α : Type} {c : Prop} [Decidable c] {x r : α} (h : (if c then some x else none) = some r) :
    c ∧ x = r := by
  split at h
  · exact ⟨‹c›, Option.some.inj h⟩
  · cases h

theorem set?_spec {v v' : Svob} {i : Nat} {val : Bool} (h : v.set? i val = some v') :
    v'.size = v.size ∧ v'.data.length = v.data.length ∧
    ∀ j, v'.get j = if j = i then val else v.get j := by
  obtain ⟨hi, rfl⟩ := of_assert h
  refine ⟨rfl, List.length_set, fun j => ?_⟩
  rw [get_set]
  by_cases hw : j / 32 = i / 32
  · have : (j % 32 = i % 32) = (j = i) := by apply propext; omega
    simp only [hw, hi, and_self, ↓reduceIte, getLsbD_setBit _ _ _ _ (mod32_lt j), this, get]
  · have : j ≠ i := fun h' => hw (h' ▸ rfl)
    simp only [hw, false_and, ↓reduceIte, this]

theorem set?_isSome (v : Svob) (i : Nat) (val : Bool) : (v.set? i val).isSome ↔ i / 32 < v.data.length := by
  unfold set?; split <;> simp_all

theorem get_alloc (size i : Nat) : (alloc size).get i = false := get_replicate_zero ..

theorem wf_alloc (size : Nat) : (alloc size).WF := by
  simp only [WF, alloc, List.length_replicate]; omega

theorem allocWithCapacity?_spec (size cap : Nat) (v : Svob) (h : allocWithCapacity? size cap = some v) :
    v.size = size ∧ v.data.length = (cap + 31) / 32 ∧ ∀ i, v.get i = false := by
  obtain ⟨_, rfl⟩ := of_assert h
  exact ⟨rfl, List.length_replicate, fun i => get_replicate_zero ..⟩

theorem get_clearExcessive (v : Svob) (i : Nat) :
    (clearExcessive v).get i = (decide (i < v.size) && v.get i) := by
  rw [clearExcessive, get_mapIdxAux, getLsbD_clearWord _ _ _ _ (mod32_lt i), Nat.div_add_mod,
    Bool.and_left_comm]
  exact congrArg _ (lt_and_get v i)

theorem get_negated (v : Svob) (i : Nat) :
    (negated v).get i = (decide (i < v.size) && decide (i / 32 < v.data.length) && !v.get i) := by
  rw [negated, get_clearExcessive, get_map, BitVec.getLsbD_not, Bool.and_assoc]
  simp only [mod32_lt, decide_true, Bool.true_and, get]

theorem get_negated_wf (v : Svob) (hwf : v.WF) (i : Nat) :
    (negated v).get i = (decide (i < v.size) && !v.get i) := by
  rw [get_negated]
  by_cases h : i < v.size
  · have : i / 32 < v.data.length := by unfold WF at hwf; omega
    simp [h, this]
  · simp [h]

theorem size_negated (v : Svob) : (negated v).size = v.size := rfl

theorem get_setAll (v : Svob) (val : Bool) (i : Nat) :
    (setAll v val).get i = (val && decide (i < v.size) && decide (i / 32 < v.data.length)) := by
  cases val
  · simp only [setAll, Bool.false_eq_true, ↓reduceIte, get_map, getLsbD_zero, Bool.and_false,
      Bool.false_and]
  · simp only [setAll, ↓reduceIte, get_clearExcessive, get_map, BitVec.getLsbD_allOnes, mod32_lt,
      decide_true, Bool.and_true, Bool.true_and]

/-! `zipW` keeps the first storage's word where another storage has none.  This is the guard in
`or?_spec` (bits of `o` beyond `v`'s storage are lost) and the `!decide` in `and?_spec` (bits of `v` beyond
`o`'s storage survive); `orMinus?_spec` excludes it by hypothesis. -/

theorem or?_spec {v o r : Svob} (h : v.or? o = some r) :
    r.size = v.size ∧ r.data.length = v.data.length ∧
    ∀ j, r.get j = (v.get j || (decide (j / 32 < v.data.length) && o.get j)) := by
  obtain ⟨_, rfl⟩ := of_assert h
  refine ⟨rfl, length_zipW .., fun j => ?_⟩
  rw [get_zipW_of_unit _ (· || ·) (fun _ _ _ _ => BitVec.getLsbD_or) Bool.or_false,
    Bool.and_or_distrib_left, lt_and_get]

theorem and?_spec {v o r : Svob} (h : v.and? o = some r) :
    r.size = v.size ∧ r.data.length = v.data.length ∧
    ∀ j, r.get j = (v.get j && (o.get j || !decide (j / 32 < o.data.length))) := by
  obtain ⟨_, rfl⟩ := of_assert h
  refine ⟨rfl, length_zipW .., fun j => ?_⟩
  rw [get_zipW _ (· && ·) (fun _ _ _ _ => BitVec.getLsbD_and)]
  cases decide (j / 32 < o.data.length)
  · rw [cond_false, lt_and_get, Bool.not_false, Bool.or_true, Bool.and_true]
  · rw [cond_true, ← Bool.and_assoc, lt_and_get, Bool.not_true, Bool.or_false]

theorem sub?_spec {v o r : Svob} (h : v.sub? o = some r) :
    r.size = v.size ∧ r.data.length = v.data.length ∧
    ∀ j, r.get j = (v.get j && !o.get j) := by
  obtain ⟨_, rfl⟩ := of_assert h
  refine ⟨rfl, length_zipW .., fun j => ?_⟩
  rw [get_zipW_of_unit _ (fun x y => x && !y) (fun _ _ _ hb => by
      simp only [BitVec.getLsbD_and, BitVec.getLsbD_not, hb, decide_true, Bool.true_and])
    (fun x => by rw [Bool.not_false, Bool.and_true]), ← Bool.and_assoc, lt_and_get]

theorem orMinus?_spec {v o m r : Svob} (h : v.orMinus? o m = some r)
    (hlo : o.data.length = v.data.length) (hlm : m.data.length = v.data.length) :
    r.size = v.size ∧ r.data.length = v.data.length ∧
    ∀ j, r.get j = (v.get j || (o.get j && !m.get j)) := by
  obtain ⟨_, rfl⟩ := of_assert h
  refine ⟨rfl, length_zipW3 .., fun j => ?_⟩
  rw [get_zipW3 _ (fun x y z => x || (y && !z)) (fun _ _ _ _ hb => by
    simp only [BitVec.getLsbD_or, BitVec.getLsbD_and, BitVec.getLsbD_not, hb, decide_true, Bool.true_and])]
  split
  · rfl
  · rw [get_of_le o j (by omega), Bool.false_and, Bool.or_false]

theorem toList?_eq {v : Svob} {l : List Nat} (h : v.toList? = some l) :
    l = (List.range v.size).filter v.get := by
  exact (of_assert h).2.symm

theorem toList?_spec {v : Svob} {l : List Nat} (h : v.toList? = some l) :
    ∀ i, i ∈ l ↔ (i < v.size ∧ v.get i = true) := by
  simp only [toList?_eq h, List.mem_filter, List.mem_range, implies_true]

theorem toList?_sorted {v : Svob} {l : List Nat} (h : v.toList? = some l) :
    l.Pairwise (· < ·) :=
  toList?_eq h ▸ List.Pairwise.filter _ List.pairwise_lt_range

theorem mem_iterAll (v : Svob) (i : Nat) : i ∈ v.iterAll ↔ v.get i = true := by
  simp only [iterAll, List.mem_filter, List.mem_range, and_iff_right_iff_imp]
  intro h
  refine Nat.lt_of_not_le fun hle => ?_
  rw [get_of_le v i (by omega)] at h
  cases h

end Svob
end LlgVerif
