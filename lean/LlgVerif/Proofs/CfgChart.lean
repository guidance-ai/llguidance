/-
Chart recogniser of S4, soundness: every fact in the chart is a derivation (`ChartSound`, kept by every
inference step).  Completeness at a closed chart is in `CfgComplete.lean`.
-/
import LlgVerif.Spec.Cfg
namespace LlgVerif
namespace Cfg

variable {N : Type} [DecidableEq N] [Hashable N]

def ChartSound (G : Gram N) (c : Chart N) : Prop := ∀ f, c.contains f = true → DL G f.1 f.2

theorem mem_splits {x u v : List B} : (u, v) ∈ splits x ↔ x = u ++ v := by
  simp only [splits, List.mem_map, List.mem_range, Prod.mk.injEq]
  constructor
  · rintro ⟨k, _, rfl, rfl⟩; exact (List.take_append_drop k x).symm
  · rintro rfl; exact ⟨u.length, by simp; omega, by simp⟩

theorem infer_nil {G : Gram N} {c : Chart N} {x : List B} : infer G c ([], x) = true ↔ x = [] := by
  simp [infer]

theorem infer_t {G : Gram N} {c : Chart N} {lo hi : UInt8} {α : List (Sym N)} {x : List B} :
    infer G c (Sym.t lo hi :: α, x) = true ↔
      ∃ b x', x = b :: x' ∧ lo ≤ b ∧ b ≤ hi ∧ c.contains (α, x') = true := by
  cases x <;> simp [infer, and_assoc]

theorem infer_nt {G : Gram N} {c : Chart N} {a : N} {α : List (Sym N)} {x : List B} :
    infer G c (Sym.nt a :: α, x) = true ↔
      ∃ β u v, (a, β) ∈ G ∧ x = u ++ v ∧ c.contains (β, u) = true ∧ c.contains (α, v) = true := by
  simp only [infer, List.any_eq_true, Bool.and_eq_true, decide_eq_true_eq, Prod.exists]
  constructor
  · rintro ⟨u, v, hs, hv, _, β, hr, rfl, hu⟩
    exact ⟨β, u, v, hr, mem_splits.mp hs, hu, hv⟩
  · rintro ⟨β, u, v, hr, hx, hu, hv⟩
    exact ⟨u, v, mem_splits.mpr hx, hv, a, β, hr, rfl, hu⟩

theorem infer_sound (G : Gram N) (c : Chart N) (hc : ChartSound G c) (f : Fact N)
    (h : infer G c f = true) : DL G f.1 f.2 := by
  obtain ⟨α, x⟩ := f
  match α with
  | [] => exact infer_nil.mp h ▸ DL.nil
  | Sym.t lo hi :: α =>
    obtain ⟨b, x', rfl, h1, h2, hx⟩ := infer_t.mp h
    exact DL.t h1 h2 (hc _ hx)
  | Sym.nt a :: α =>
    obtain ⟨β, u, v, hr, rfl, hu, hv⟩ := infer_nt.mp h
    exact DL.nt hr (hc _ hu) (hc _ hv)

theorem chartSound_stepC (G : Gram N) (U : List (Fact N)) (c : Chart N) (hc : ChartSound G c) :
    ChartSound G (stepC G U c) := by
  refine List.foldlRecOn U _ hc fun acc hacc f _ => ?_
  split
  · rename_i hf
    intro g hg
    rw [Std.HashSet.contains_insert, Bool.or_eq_true, beq_iff_eq] at hg
    rcases hg with rfl | hg
    · exact infer_sound G acc hacc f hf
    · exact hacc g hg
  · exact hacc

theorem chartSound_iterC (G : Gram N) (U : List (Fact N)) (k : Nat) (c : Chart N) (hc : ChartSound G c) :
    ChartSound G (iterC G U k c) := by
  induction k generalizing c with
  | zero => exact hc
  | succ k ih =>
    simp only [iterC]
    split
    · exact chartSound_stepC G U c hc
    · exact ih _ (chartSound_stepC G U c hc)

theorem chart?_eq_some {G : Gram N} {start : List (List (Sym N))} {w : List B} {fuel : Nat} {c : Chart N} :
    chart? G start w fuel = some c ↔
      iterC G (univ G start w) fuel {} = c ∧ closed G (univ G start w) c = true := by
  simp only [chart?, Option.ite_none_right_eq_some, Option.some.injEq]
  constructor
  · rintro ⟨h, rfl⟩; exact ⟨rfl, h⟩
  · rintro ⟨rfl, h⟩; exact ⟨h, rfl⟩

theorem chart_sound (G : Gram N) (start : List (List (Sym N))) (w : List B) (fuel : Nat) (c : Chart N)
    (h : chart? G start w fuel = some c) : ChartSound G c := by
  obtain ⟨rfl, _⟩ := chart?_eq_some.mp h
  exact chartSound_iterC G _ fuel _ fun f h => by simp at h

end Cfg
end LlgVerif
