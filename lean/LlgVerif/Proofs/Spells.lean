/-
Languages that are the image of a set under a spelling function: every statement of C08 says that a
pattern accepts exactly the spellings `enc x` of the well-formed `x` with a property `P` (`enc` being
`dec`, `decZ`, `digB`, `fracBytes` or `litB`), so the combinators are proved once for all of them.
-/
import LlgVerif.Model.IntRange
import LlgVerif.Proofs.RegexLang
namespace LlgVerif
open Rx

theorem lang_alt_cat (a b c : Rx) (w : List B) :
    lang (cat (alt a b) c) w ↔ lang (cat a c) w ∨ lang (cat b c) w := by
  simp only [lang_cat, lang_alt, or_and_right, and_or_left, exists_or]

theorem lang_altsRx_nil (w : List B) : lang (altsRx []) w ↔ False := Iff.rfl

theorem lang_altsRx_cons (r : Rx) (rs : List Rx) (w : List B) :
    lang (altsRx (r :: rs)) w ↔ lang r w ∨ lang (altsRx rs) w := Iff.rfl

theorem lang_altsRx_append (a b : List Rx) (w : List B) :
    lang (altsRx (a ++ b)) w ↔ lang (altsRx a) w ∨ lang (altsRx b) w := by
  induction a with
  | nil => simp only [List.nil_append, lang_altsRx_nil, false_or]
  | cons r a ih => simp only [List.cons_append, lang_altsRx_cons, ih, or_assoc]

theorem lang_byte (c : B) (w : List B) : lang (set [(c.toNat, c.toNat)]) w ↔ w = [c] := by
  simp only [lang, inSet, List.any_cons, List.any_nil, Bool.or_false, Bool.and_eq_true,
    decide_eq_true_eq]
  constructor
  · rintro ⟨b, hw, h1, h2⟩
    rw [hw, UInt8.toNat_inj.mp (Nat.le_antisymm h2 h1)]
  · intro h; exact ⟨c, h, Nat.le_refl _, Nat.le_refl _⟩

theorem lang_byte_cat (c : B) (rx : Rx) (w : List B) :
    lang (cat (set [(c.toNat, c.toNat)]) rx) w ↔ ∃ v, w = c :: v ∧ lang rx v := by
  simp only [lang_cat, lang_byte]
  constructor
  · rintro ⟨u, v, hw, rfl, hv⟩; exact ⟨v, hw, hv⟩
  · rintro ⟨v, hw, hv⟩; exact ⟨[c], v, hw, rfl, hv⟩

/-- The domain `D` is kept apart from the property `P` because it stays the same while patterns are put
together. -/
def Spells {α : Type} (enc : α → List B) (D : α → Prop) (rx : Rx) (P : α → Prop) : Prop :=
  ∀ w, lang rx w ↔ ∃ x, D x ∧ w = enc x ∧ P x

namespace Spells
variable {α β : Type} {enc : α → List B} {D : α → Prop} {rx a b : Rx} {rs ss : List Rx}
  {P Q : α → Prop}

theorem congr (h : Spells enc D rx P) (hpq : ∀ x, D x → (P x ↔ Q x)) : Spells enc D rx Q :=
  fun w => (h w).trans (exists_congr fun x => and_congr_right fun hx => and_congr_right' (hpq x hx))

theorem union (ha : Spells enc D a P) (hb : Spells enc D b Q) :
    Spells enc D (alt a b) (fun x => P x ∨ Q x) := fun w => by
  simp only [lang_alt, ha w, hb w, and_or_left, exists_or]

/-! `mk_or` in `numeric.rs` is called on lists put together from parts, some of them present only under
a condition (`if c then [r] else []`). -/

theorem alts_nil : Spells enc D (altsRx []) (fun _ => False) :=
  fun _ => ⟨False.elim, fun ⟨_, _, _, h⟩ => h⟩

theorem alts_cons (ha : Spells enc D a P) (hs : Spells enc D (altsRx rs) Q) :
    Spells enc D (altsRx (a :: rs)) (fun x => P x ∨ Q x) := union ha hs

theorem alts_one (ha : Spells enc D a P) : Spells enc D (altsRx [a]) P :=
  (alts_cons ha alts_nil).congr fun _ _ => or_iff_left id

theorem alts_append (hr : Spells enc D (altsRx rs) P) (hs : Spells enc D (altsRx ss) Q) :
    Spells enc D (altsRx (rs ++ ss)) (fun x => P x ∨ Q x) := fun w => by
  simp only [lang_altsRx_append, hr w, hs w, and_or_left, exists_or]

theorem alts_ite (c : Prop) [Decidable c] (hr : c → Spells enc D (altsRx rs) P) :
    Spells enc D (altsRx (if c then rs else [])) (fun x => c ∧ P x) := by
  split
  · rename_i hc; exact (hr hc).congr fun _ _ => (and_iff_right hc).symm
  · rename_i hc; exact alts_nil.congr fun _ _ => (iff_of_false id fun h => hc h.1)

theorem lead (c : B) (h : Spells enc D rx P) :
    Spells (fun x => c :: enc x) D (cat (set [(c.toNat, c.toNat)]) rx) P := fun w => by
  rw [lang_byte_cat]
  constructor
  · rintro ⟨v, hw, hv⟩
    obtain ⟨x, hd, rfl, hx⟩ := (h v).mp hv
    exact ⟨x, hd, hw, hx⟩
  · rintro ⟨x, hd, hw, hx⟩; exact ⟨_, hw, (h _).mpr ⟨x, hd, rfl, hx⟩⟩

theorem neg (h : Spells enc D rx P) : Spells (fun x => 45 :: enc x) D (cat minus rx) P :=
  lead 45 h

theorem seq {e₁ : α → List B} {e₂ : β → List B} {E : β → Prop} {Q : β → Prop}
    (ha : Spells e₁ D a P) (hb : Spells e₂ E b Q) :
    Spells (fun x : α × β => e₁ x.1 ++ e₂ x.2) (fun x => D x.1 ∧ E x.2) (cat a b)
      (fun x => P x.1 ∧ Q x.2) := fun w => by
  simp only [lang_cat, ha _, hb _]
  constructor
  · rintro ⟨_, _, hw, ⟨x, dx, rfl, hx⟩, y, dy, rfl, hy⟩; exact ⟨(x, y), ⟨dx, dy⟩, hw, hx, hy⟩
  · rintro ⟨⟨x, y⟩, ⟨dx, dy⟩, hw, hx, hy⟩; exact ⟨_, _, hw, ⟨x, dx, rfl, hx⟩, y, dy, rfl, hy⟩

theorem image {enc' : β → List B} {E Q : β → Prop} (h : Spells enc D rx P) (f : α → β)
    (hf : ∀ x, D x → P x → E (f x) ∧ enc' (f x) = enc x ∧ Q (f x))
    (hsurj : ∀ y, E y → Q y → ∃ x, D x ∧ P x ∧ f x = y) : Spells enc' E rx Q := fun w => by
  rw [h w]
  constructor
  · rintro ⟨x, dx, hw, hx⟩
    obtain ⟨ex, he, hq⟩ := hf x dx hx
    exact ⟨f x, ex, by rw [he, hw], hq⟩
  · rintro ⟨y, ey, hw, hy⟩
    obtain ⟨x, dx, hx, rfl⟩ := hsurj y ey hy
    exact ⟨x, dx, by rw [hw, (hf x dx hx).2.1], hx⟩

end Spells
end LlgVerif
