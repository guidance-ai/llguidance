/- Stop controller (`Model/Stop.lean`): `chop` as a least upper bound (`chop_le_iff`) and the lemma
`chop_reach` behind both look-ahead bounds. -/
import LlgVerif.Model.Stop
import LlgVerif.Proofs.ListFacts
namespace LlgVerif
namespace StopCfg

theorem back_le (arr : Array SB) (fuel i : Nat) : validUtf8Len.back arr fuel i ≤ i := by
  induction fuel generalizing i with
  | zero => simp [validUtf8Len.back]
  | succ f ih =>
    simp only [validUtf8Len.back]
    split
    · have := ih (i - 1); omega
    · exact Nat.le_refl _

theorem ite_add_le {i e n : Nat} (h : i ≤ n) : (if i + e ≤ n then i + e else i) ≤ n := by
  split
  · assumption
  · exact h

theorem validUtf8Len_le (d : List SB) : validUtf8Len d ≤ d.length := by
  unfold validUtf8Len
  by_cases h : d.isEmpty
  · rw [if_pos h]; exact Nat.zero_le _
  · -- `if i + expected ≤ |d| then i + expected else i` with `i ≤ |d| - 1` from the backward scan
    rw [if_neg h]
    exact ite_add_le (Nat.le_trans (back_le d.toArray d.length (d.length - 1)) (Nat.sub_le _ 1))

variable (c : StopCfg)

/-- `chop` is never unfolded below: every later fact about it goes through this iff -/
theorem chop_le_iff (t : List SB) (n : Nat) :
    c.chop t ≤ n ↔
      ∀ s ∈ c.stops, ∀ v, v <+: s → v.length < s.length → v <:+ t → v.length ≤ n := by
  simp only [chop, foldl_max_le_iff, Nat.zero_le, true_and, List.mem_filter, List.mem_range,
    List.any_eq_true, Bool.and_eq_true, decide_eq_true_eq, beq_iff_eq]
  constructor
  · intro h s hs v hv hlt hvt
    refine h _ ⟨Nat.lt_succ_of_le hvt.length_le, s, hs, hlt, ?_⟩
    rw [← List.prefix_iff_eq_take.mp hv, ← List.suffix_iff_eq_drop.mp hvt]
  · rintro h k ⟨hk, s, hs, hlt, heq⟩
    have := h s hs _ (List.take_prefix k s) (by simp; omega) (heq ▸ List.drop_suffix _ t)
    simpa [Nat.min_eq_left (Nat.le_of_lt hlt)] using this

theorem isSuffix_iff (s t : List SB) : isSuffix s t = true ↔ s <:+ t := by
  simp only [isSuffix, Bool.and_eq_true, decide_eq_true_eq, beq_iff_eq, List.suffix_iff_eq_drop,
    eq_comm (a := s)]
  exact ⟨fun h => h.2, fun h => ⟨by have := congrArg List.length h; simp at this; omega, h⟩⟩

theorem matchLen_some {t : List SB} {k : Nat} (h : c.matchLen t = some k) :
    ∃ s ∈ c.stops, s.length = k ∧ s <:+ t := by
  obtain ⟨s, hf, rfl⟩ := Option.map_eq_some_iff.mp h
  exact ⟨s, List.mem_of_find?_eq_some hf, rfl, (isSuffix_iff s t).mp (List.find?_some hf :)⟩

/-- A prefix `v` of a stop string `s` that is a suffix of `text ++ p` reaches back into `text` by
at most `chop text` bytes, unless it is all of `s` and `p` is empty.  With `v = s` this bounds the
truncation at a match, with `v` a proper prefix it bounds the growth of `chop`. -/
theorem chop_reach (text p v s : List SB) (hs : s ∈ c.stops) (hv : v <+: s)
    (hlt : v.length < s.length + p.length) (hvt : v <:+ text ++ p) :
    v.length ≤ c.chop text + p.length := by
  obtain ⟨u, hu⟩ := hvt
  rcases List.append_eq_append_iff.mp hu with ⟨a, rfl, rfl⟩ | ⟨a, rfl, rfl⟩
  · -- `v = a ++ p` with `a` a suffix of `text`
    have := (chop_le_iff c (u ++ a) _).mp (Nat.le_refl _) s hs a
      ((List.prefix_append a p).trans hv) (by simp at hlt; omega) (List.suffix_append u a)
    simp; omega
  · simp; omega

theorem match_reach (text p : List SB) (hp : p ≠ []) (k : Nat)
    (h : c.matchLen (text ++ p) = some k) : k ≤ c.chop text + p.length := by
  obtain ⟨s, hs, rfl, hst⟩ := matchLen_some c h
  exact chop_reach c text p s s hs (List.prefix_refl s)
    (Nat.lt_add_of_pos_right (List.length_pos_iff.mpr hp)) hst

theorem chop_append_le (text bs : List SB) :
    c.chop (text ++ bs) ≤ c.chop text + bs.length :=
  (chop_le_iff c _ _).mpr fun s hs v hv hlt hvt =>
    chop_reach c text bs v s hs hv (Nat.lt_add_right _ hlt) hvt

end StopCfg
end LlgVerif
