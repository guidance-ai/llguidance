/- Byte runs (`runBytes`) and what `commit` does on a text token (M6): the equations the
   properties C01, C02, C03 and C13 share. -/
import LlgVerif.Model.Engine
namespace LlgVerif
open EngCfg

variable {S : Type}

theorem runBytes_cons (r : Rec S) (s : S) (b : Byte) (w : List Byte) :
    runBytes r s (b :: w) = (r.step s b).bind (fun s' => runBytes r s' w) := by
  simp only [runBytes]
  cases r.step s b <;> rfl

theorem runBytes_eq_foldlM (r : Rec S) (s : S) (w : List Byte) : runBytes r s w = w.foldlM r.step s := by
  induction w generalizing s with
  | nil => rfl
  | cons b w ih =>
    rw [runBytes_cons, List.foldlM_cons]
    exact congrArg _ (funext ih)

theorem runBytes_append (r : Rec S) (s : S) (u v : List Byte) :
    runBytes r s (u ++ v) = (runBytes r s u).bind (fun s' => runBytes r s' v) := by
  simp only [runBytes_eq_foldlM, List.foldlM_append]
  rfl

theorem commit_of_ne_eos (c : EngCfg S) (s : EngState S) (t : Nat) (ht : t ≠ c.eos) :
    c.commit s t =
      if s.stopped = true ∨ c.tokBytes t = [] then none
      else (runBytes c.recog s.st (c.tokBytes t)).map fun st' =>
        { s with st := st', tokens := s.tokens ++ [t] } := by
  unfold commit
  cases s.stopped
  · simp only [Bool.false_eq_true, ↓reduceIte, ht, false_or]
    cases c.tokBytes t with
    | nil => rfl
    | cons b bs =>
      simp only [reduceCtorEq, ↓reduceIte]
      cases runBytes c.recog s.st (b :: bs) <;> rfl
  · rfl

theorem commit_some {c : EngCfg S} {s s' : EngState S} {t : Nat} (ht : t ≠ c.eos)
    (h : c.commit s t = some s') :
    s.stopped = false ∧ c.tokBytes t ≠ [] ∧ runBytes c.recog s.st (c.tokBytes t) = some s'.st ∧
      s'.stopped = false := by
  rw [commit_of_ne_eos c s t ht] at h
  split at h
  · cases h
  · rename_i hc
    rw [not_or, Bool.not_eq_true] at hc
    obtain ⟨st', hr, h⟩ := Option.map_eq_some_iff.mp h
    cases h
    exact ⟨hc.1, hc.2, hr, hc.1⟩

def commits (c : EngCfg S) (s : EngState S) (ts : List Nat) : Option (EngState S) :=
  ts.foldlM (fun st t => c.commit st t) s

/-- No hypothesis on the tokens' bytes: a token without bytes does not commit. -/
theorem commits_runBytes (c : EngCfg S) (ts : List Nat) (s s' : EngState S)
    (hne : ∀ t ∈ ts, t ≠ c.eos) (h : commits c s ts = some s') :
    runBytes c.recog s.st (ts.flatMap c.tokBytes) = some s'.st := by
  induction ts generalizing s with
  | nil => cases h; rfl
  | cons t ts ih =>
    rw [commits, List.foldlM_cons] at h
    obtain ⟨s1, hc, h⟩ := Option.bind_eq_some_iff.mp h
    obtain ⟨-, -, hr, -⟩ := commit_some (hne t List.mem_cons_self) hc
    rw [List.flatMap_cons, runBytes_append, hr]
    exact ih s1 (fun x hx => hne x (List.mem_cons_of_mem _ hx)) h

theorem runBytes_last (r : Rec S) (st : S) (w : List Byte) (hw : w ≠ []) (st' : S)
    (h : runBytes r st w = some st') : ∃ st0 b0, r.step st0 b0 = some st' := by
  rw [← List.dropLast_concat_getLast hw, runBytes_append] at h
  obtain ⟨s1, -, h⟩ := Option.bind_eq_some_iff.mp h
  rw [runBytes_cons] at h
  obtain ⟨s2, hs, h⟩ := Option.bind_eq_some_iff.mp h
  cases h
  exact ⟨s1, _, hs⟩

def TextTokens (c : EngCfg S) (ts : List Nat) : Prop :=
  ∀ t ∈ ts, t ≠ c.eos ∧ c.tokBytes t ≠ []

theorem commits_text (c : EngCfg S) (ts : List Nat) (s : EngState S) (hs : s.stopped = false)
    (hts : TextTokens c ts) :
    commits c s ts = (runBytes c.recog s.st (ts.flatMap c.tokBytes)).map fun st' =>
      { st := st', tokens := s.tokens ++ ts, stopped := false } := by
  induction ts generalizing s with
  | nil => exact congrArg some (by rw [List.append_nil, ← hs])
  | cons t ts ih =>
    obtain ⟨⟨hne, hbt⟩, hts⟩ := List.forall_mem_cons.mp hts
    simp only [commits, List.foldlM_cons, List.flatMap_cons, runBytes_append,
      commit_of_ne_eos c s t hne, hs, hbt, Bool.false_eq_true, or_self, ↓reduceIte]
    cases runBytes c.recog s.st (c.tokBytes t) with
    | none => rfl
    | some st' =>
      simp only [Option.map_some, Option.bind_some]
      refine (ih _ rfl hts).trans ?_
      simp only [List.append_assoc, List.singleton_append]

end LlgVerif
