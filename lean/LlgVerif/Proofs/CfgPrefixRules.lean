/-
Groundwork for the prefix grammar theorem (Proofs/CfgPrefix.lean): what the productivity check
establishes, and the rules of `preG` in terms of cut forms.
-/
import LlgVerif.Proofs.CfgDeriv
namespace LlgVerif
namespace Cfg
variable {N : Type}

def Productive (G : Gram N) (α : List (Sym N)) : Prop := ∃ v, DL G α v

/-- what the productivity check establishes of a symbol of a right-hand side -/
def SymOK (G : Gram N) : Sym N → Prop
  | Sym.nt a => Productive G [Sym.nt a]
  | Sym.t lo hi => lo ≤ hi

theorem productive_of_symOK (G : Gram N) (α : List (Sym N)) (h : ∀ s ∈ α, SymOK G s) :
    Productive G α := by
  induction α with
  | nil => exact ⟨[], DL.nil⟩
  | cons s α ih =>
    obtain ⟨hs, hα⟩ := List.forall_mem_cons.mp h
    obtain ⟨v, hv⟩ := ih hα
    cases s with
    | nt a =>
      obtain ⟨u, hu⟩ := hs
      exact ⟨u ++ v, DL_append hu hv⟩
    | t lo hi =>
      exact ⟨lo :: v, DL.t (UInt8.le_refl lo) hs hv⟩

section
variable [DecidableEq N]

def PInv (G : Gram N) (p : List N) : Prop := ∀ a, p.contains a = true → Productive G [Sym.nt a]

/-- the test the productivity computations make on a symbol, read with the invariant -/
theorem PInv.symOK {G : Gram N} {p : List N} (hp : PInv G p) {s : Sym N}
    (h : (match s with
      | Sym.nt a => p.contains a
      | Sym.t lo hi => decide (lo ≤ hi)) = true) : SymOK G s := by
  cases s with
  | nt b => exact hp b h
  | t lo hi => exact (of_decide_eq_true h : lo ≤ hi)

theorem pinv_prodStep (G : Gram N) (p : List N) (hp : PInv G p) : PInv G (prodStep G p) := by
  refine List.foldlRecOn G _ hp fun acc hacc r hr => ?_
  split
  · rename_i hc
    simp only [Bool.and_eq_true, List.all_eq_true] at hc
    intro a ha
    rcases List.mem_cons.mp (List.contains_iff_mem.mp ha) with rfl | ha
    · obtain ⟨v, hv⟩ := productive_of_symOK G r.2 fun s hs => hacc.symOK (hc.2 s hs)
      exact ⟨v, DL_single hr hv⟩
    · exact hacc a (List.contains_iff_mem.mpr ha)
  · exact hacc

theorem pinv_prodIter (G : Gram N) (k : Nat) (p : List N) (hp : PInv G p) : PInv G (prodIter G k p) := by
  induction k generalizing p with
  | zero => exact hp
  | succ k ih => exact ih _ (pinv_prodStep G p hp)

-- `[Hashable N]` is unused (only `Chart` needs it); the audited statement carries it
variable [Hashable N]

set_option linter.unusedSectionVars false in
theorem allProductive_spec (G : Gram N) (h : allProductive G = true) (a : N) (β : List (Sym N))
    (hr : (a, β) ∈ G) : ∀ s ∈ β, SymOK G s := by
  unfold allProductive at h
  simp only [List.all_eq_true, Bool.and_eq_true] at h
  have hp : PInv G (prodIter G (G.length + 1) []) :=
    pinv_prodIter G _ [] (by intro a ha; simp at ha)
  exact fun s hs => hp.symOK ((h (a, β) hr).2 s hs)

end

/-- a form of `G` read in `preG G` (nonterminals unmarked) -/
def embL (α : List (Sym N)) : List (Sym (N × Bool)) := α.map emb

/-- a form cut somewhere: the symbols `done` entirely and then, for `c = some b`, a start of `b`.
`cutR` is the part of the form up to and including the cut symbol, `cutL` what the prefix grammar
derives the text before the cut from -/
def cutR (done : List (Sym N)) (c : Option N) : List (Sym N) := done ++ (c.map Sym.nt).toList
def cutL (done : List (Sym N)) (c : Option N) : List (Sym (N × Bool)) :=
  embL done ++ (c.map fun b => Sym.nt (b, true)).toList

theorem cutR_none (α : List (Sym N)) : cutR α none = α := List.append_nil α
theorem cutL_none (α : List (Sym N)) : cutL α none = embL α := List.append_nil _
@[simp] theorem cutR_cons (s : Sym N) (α : List (Sym N)) (c : Option N) :
    cutR (s :: α) c = s :: cutR α c := rfl
@[simp] theorem cutR_nil_some (b : N) : cutR [] (some b) = [Sym.nt b] := rfl

theorem mem_preRules (a : N) (β : List (Sym N)) (q : (N × Bool) × List (Sym (N × Bool))) :
    q ∈ preRules a β ↔ ∃ d c r, β = cutR d c ++ r ∧ q = ((a, true), cutL d c) := by
  simp only [preRules, List.mem_flatMap, List.mem_range, List.mem_cons]
  constructor
  · rintro ⟨k, hk, rfl | h⟩
    · exact ⟨β.take k, none, β.drop k, by rw [cutR_none, List.take_append_drop], by rw [cutL_none]; rfl⟩
    · split at h
      · rename_i b hb
        obtain rfl := List.mem_singleton.mp h
        obtain ⟨hlt, hget⟩ := List.getElem?_eq_some_iff.mp hb
        -- `β = β.take k ++ nt b :: β.drop (k + 1)`
        refine ⟨β.take k, some b, β.drop (k + 1), ?_, rfl⟩
        rw [cutR, Option.map_some, Option.toList_some, List.append_assoc, List.singleton_append,
          ← hget, ← List.drop_eq_getElem_cons hlt, List.take_append_drop]
      · cases h
  · rintro ⟨d, c, r, rfl, rfl⟩
    -- the cut is at `k = d.length`
    have hβ : cutR d c ++ r = d ++ ((c.map Sym.nt).toList ++ r) := List.append_assoc ..
    refine ⟨d.length, by rw [hβ, List.length_append]; omega, ?_⟩
    rw [hβ, List.take_left' rfl, List.getElem?_append_right (Nat.le_refl _), Nat.sub_self]
    cases c with
    | none => exact .inl (by rw [cutL_none]; rfl)
    | some b => exact .inr (List.mem_singleton.mpr rfl)

theorem mem_preG (G : Gram N) (x : N × Bool) (γ : List (Sym (N × Bool))) :
    (x, γ) ∈ preG G ↔
      (∃ a β, (a, β) ∈ G ∧ x = (a, false) ∧ γ = embL β) ∨
      (∃ a d c r, (a, cutR d c ++ r) ∈ G ∧ x = (a, true) ∧ γ = cutL d c) := by
  simp only [preG, List.mem_append, List.mem_map, List.mem_flatMap, mem_preRules, Prod.mk.injEq]
  constructor
  · rintro (⟨r, hr, h1, h2⟩ | ⟨r, hr, d, c, r1, h, hx, hγ⟩)
    · exact Or.inl ⟨r.1, r.2, hr, h1.symm, h2.symm⟩
    · exact Or.inr ⟨r.1, d, c, r1, by rw [← h]; exact hr, hx, hγ⟩
  · rintro (⟨a, β, hr, hx, hγ⟩ | ⟨a, d, c, r, hr, hx, hγ⟩)
    · exact Or.inl ⟨(a, β), hr, hx.symm, hγ.symm⟩
    · exact Or.inr ⟨(a, cutR d c ++ r), hr, d, c, r, rfl, hx, hγ⟩

theorem mem_preG_false {G : Gram N} {a : N} {γ : List (Sym (N × Bool))} :
    ((a, false), γ) ∈ preG G ↔ ∃ β, (a, β) ∈ G ∧ γ = embL β := by
  rw [mem_preG]
  constructor
  · rintro (⟨_, β, hr, ⟨⟩, rfl⟩ | ⟨_, _, _, _, _, ⟨⟩, _⟩)
    exact ⟨β, hr, rfl⟩
  · rintro ⟨β, hr, rfl⟩
    exact .inl ⟨a, β, hr, rfl, rfl⟩

theorem mem_preG_true {G : Gram N} {a : N} {γ : List (Sym (N × Bool))} :
    ((a, true), γ) ∈ preG G ↔ ∃ d c r, (a, cutR d c ++ r) ∈ G ∧ γ = cutL d c := by
  rw [mem_preG]
  constructor
  · rintro (⟨_, _, _, ⟨⟩, _⟩ | ⟨_, d, c, r, hr, ⟨⟩, rfl⟩)
    exact ⟨d, c, r, hr, rfl⟩
  · rintro ⟨d, c, r, hr, rfl⟩
    exact .inr ⟨a, d, c, r, hr, rfl, rfl⟩

end Cfg
end LlgVerif
