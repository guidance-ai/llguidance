/- Stop controller (`Model/Stop.lean`): the run-level invariant and the output theorem. -/
import LlgVerif.Proofs.Stop
namespace LlgVerif
namespace StopCfg

/-- an ordinary text token: not a stop token, non-empty, not special -/
def TextTok (c : StopCfg) (t : Nat) : Prop :=
  c.stopTokens.contains t = false ∧ ∃ b rest, c.tokBytes t = b :: rest ∧ (b == 0xFF) = false

def allBytesOf (c : StopCfg) (ts : List Nat) : List SB := ts.flatMap c.tokBytes

/-- no stop string ends at any non-empty prefix of `w` -/
def NoMatchIn (c : StopCfg) (w : List SB) : Prop :=
  ∀ p q, w = p ++ q → p ≠ [] → c.matchLen p = none

structure RunInv (c : StopCfg) (outs : List (List SB)) (s : StopSt) (all : List SB) : Prop where
  notStopped : s.stopped = false
  conserve : outs.flatten ++ s.pending = all
  text : s.text = all
  noMatch : NoMatchIn c all
  withheld : c.chop all ≤ s.pending.length

/-- the stopped outcome: the returned text is the text before the first stop occurrence -/
def StoppedAt (c : StopCfg) (outs : List (List SB)) (s : StopSt) (all : List SB) : Prop :=
  s.stopped = true ∧ ∃ p q k, all = p ++ q ∧ c.matchLen p = some k ∧ k ≤ p.length ∧
    (∀ p' q', p = p' ++ q' → p' ≠ [] → q' ≠ [] → c.matchLen p' = none) ∧
    outs.flatten = p.take (p.length - k)

theorem NoMatchIn.proper {c : StopCfg} {w p q : List SB} {b : SB} (h : NoMatchIn c w)
    (hpq : w ++ [b] = p ++ q) (hp : p ≠ []) (hq : q ≠ []) : c.matchLen p = none := by
  rcases List.prefix_concat_iff.mp ⟨q, hpq.symm⟩ with rfl | ⟨q', hq'⟩
  · exact absurd (List.append_right_eq_self.mp hpq.symm) hq
  · exact h p q' hq'.symm hp

theorem NoMatchIn.concat {c : StopCfg} {w : List SB} {b : SB} (h : NoMatchIn c w)
    (hb : c.matchLen (w ++ [b]) = none) : NoMatchIn c (w ++ [b]) := by
  intro p q hpq hp
  by_cases hq : q = []
  · rw [hq, List.append_nil] at hpq
    exact hpq ▸ hb
  · exact h.proper hpq hp hq

/-- The byte loop keeps the run invariant, byte by byte: while no stop string has ended, the bytes
not yet returned (`buf`) cover the look-ahead `chop text`, which grows by at most one per byte; at
the first match the truncation stays inside `buf` (`match_reach`). -/
theorem feedBytes_inv (c : StopCfg) (outs : List (List SB)) (bs buf text : List SB)
    (hc : outs.flatten ++ buf = text) (hnm : NoMatchIn c text) (hw : c.chop text ≤ buf.length) :
    RunInv c (outs ++ [(feedBytes c bs buf text).1]) (feedBytes c bs buf text).2 (text ++ bs) ∨
    StoppedAt c (outs ++ [(feedBytes c bs buf text).1]) (feedBytes c bs buf text).2 (text ++ bs) := by
  induction bs generalizing buf text with
  | nil =>
    have : validUtf8Len (buf.take (buf.length - c.chop text)) ≤ buf.length - c.chop text :=
      Nat.le_trans (validUtf8Len_le _) (List.length_take_le _ _)
    simp only [feedBytes, List.append_nil]
    exact .inl
      { notStopped := rfl
        conserve := by rw [List.flatten_concat, List.append_assoc, List.take_append_drop, hc]
        text := rfl
        noMatch := hnm
        withheld := by
          rw [List.length_drop]
          exact Nat.le_sub_of_add_le' ((Nat.le_sub_iff_add_le hw).mp this) }
  | cons b bs ih =>
    simp only [feedBytes]
    rw [List.append_cons text b bs]
    have hw' : c.chop text + 1 ≤ (buf ++ [b]).length :=
      List.length_append ▸ Nat.succ_le_succ hw
    cases hm : c.matchLen (text ++ [b]) with
    | none =>
      exact ih (buf ++ [b]) (text ++ [b]) (by rw [← hc, List.append_assoc]) (hnm.concat hm)
        (Nat.le_trans (chop_append_le c text [b]) hw')
    | some k =>
      have hk := Nat.le_trans (match_reach c text [b] (by simp) k hm) hw'
      obtain ⟨s, _, rfl, hst⟩ := matchLen_some c hm
      -- `StoppedAt` with `p := text ++ [b]`, `q := bs`, `k := |s|`
      refine .inr ⟨rfl, text ++ [b], bs, _, rfl, hm, hst.length_le, fun _ _ => hnm.proper, ?_⟩
      rw [List.flatten_concat, ← hc, List.append_assoc, List.length_append (as := outs.flatten),
        Nat.add_sub_assoc hk, List.take_length_add_append]

theorem commit_text (c : StopCfg) (hne : c.stops.isEmpty = false) (s : StopSt) (t : Nat)
    (hs : s.stopped = false) (ht : TextTok c t) :
    c.commit s t = feedBytes c (c.tokBytes t) s.pending s.text := by
  obtain ⟨h1, b, rest, h2, h3⟩ := ht
  unfold commit
  simp only [hs, Bool.false_eq_true, ↓reduceIte, h1, h2, h3, hne]

theorem run_stopped (c : StopCfg) (s : StopSt) (hs : s.stopped = true) (ts : List Nat) :
    (run c s ts).1.flatten = [] ∧ (run c s ts).2 = s := by
  induction ts with
  | nil => simp [run]
  | cons t ts ih =>
    have hc : commit c s t = ([], s) := by unfold commit; simp [hs]
    simp only [run, hc, List.flatten_cons, List.nil_append]
    exact ih

theorem commit_step (c : StopCfg) (hne : c.stops.isEmpty = false) (outs : List (List SB))
    (s : StopSt) (all : List SB) (hinv : RunInv c outs s all) (t : Nat) (htt : TextTok c t) :
    RunInv c (outs ++ [(commit c s t).1]) (commit c s t).2 (all ++ c.tokBytes t) ∨
    StoppedAt c (outs ++ [(commit c s t).1]) (commit c s t).2 (all ++ c.tokBytes t) := by
  rw [commit_text c hne _ t hinv.notStopped htt]
  obtain ⟨st, pe, tx⟩ := s
  obtain ⟨rfl, rfl⟩ : st = false ∧ tx = all := ⟨hinv.notStopped, hinv.text⟩
  exact feedBytes_inv c outs _ pe tx hinv.conserve hinv.noMatch hinv.withheld

theorem StoppedAt.run {c : StopCfg} {outs : List (List SB)} {s : StopSt} {all : List SB}
    (h : StoppedAt c outs s all) (ts : List Nat) (extra : List SB) :
    StoppedAt c (outs ++ (run c s ts).1) (run c s ts).2 (all ++ extra) := by
  obtain ⟨hst, p, q, k, rfl, hk, hkle, hmin, hout⟩ := h
  obtain ⟨hr1, hr2⟩ := run_stopped c _ hst ts
  exact ⟨hr2.symm ▸ hst, p, q ++ extra, k, List.append_assoc .., hk, hkle, hmin, by
    rw [List.flatten_append, hr1, List.append_nil, hout]⟩

theorem run_from (c : StopCfg) (hne : c.stops.isEmpty = false) (ts : List Nat)
    (hts : ∀ t ∈ ts, TextTok c t) (outs : List (List SB)) (s : StopSt) (all : List SB)
    (hinv : RunInv c outs s all) :
    RunInv c (outs ++ (run c s ts).1) (run c s ts).2 (all ++ allBytesOf c ts) ∨
    StoppedAt c (outs ++ (run c s ts).1) (run c s ts).2 (all ++ allBytesOf c ts) := by
  induction ts generalizing outs s all with
  | nil => left; simpa [run, allBytesOf] using hinv
  | cons t ts ih =>
    have e : allBytesOf c (t :: ts) = c.tokBytes t ++ allBytesOf c ts := List.flatMap_cons
    simp only [run]
    rw [e, ← List.append_assoc, List.append_cons outs]
    rcases commit_step c hne outs s all hinv t (hts t List.mem_cons_self) with h | h
    · exact ih (fun x hx => hts x (List.mem_cons_of_mem _ hx)) _ _ _ h
    · exact .inr (h.run ts _)

theorem runInv_init (c : StopCfg) : RunInv c [] init [] where
  notStopped := rfl
  conserve := rfl
  text := rfl
  noMatch := fun p q h hp => absurd (List.append_eq_nil_iff.mp h.symm).1 hp
  withheld := (chop_le_iff c [] _).mpr fun _ _ _ _ _ hv => by simp [List.suffix_nil.mp hv]

end StopCfg
end LlgVerif
