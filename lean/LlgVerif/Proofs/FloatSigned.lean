/-
`rx_float_range` with bounds of any sign (models `floatBoth`, `floatGe`, `floatLe`),
for unequal bounds: the pattern accepts exactly the plain decimal literals, `-` only before a
non-zero magnitude, whose value lies between the bounds in the model's own order `FB.lt`.
-/
import LlgVerif.Proofs.FloatPos
namespace LlgVerif
open Rx

/-- `a ≤ b` on signed values, `a < b` when the flag is off -/
def FB.leI (incl : Bool) (a b : FB) : Prop := if incl then FB.lt b a = false else FB.lt a b = true

def FB.isNeg (a : FB) : Bool := a.neg && !a.isZero

theorem fracLtB_iff (a b : List Nat) : fracLtB a b = true ↔ fracLT a b := by
  induction b generalizing a with
  | nil => cases a <;> simp [fracLtB, fracLT]
  | cons y b ih => cases a <;> simp [fracLtB, fracLT, ih]

theorem leB_not (i : Bool) (ip : Nat) (fd : List Nat) (bip : Nat) (bfd : List Nat) :
    ¬ leB i ip fd bip bfd ↔ leB (!i) bip bfd ip fd := by
  unfold leB
  rw [upperB_eq, upperB_eq, lowerB_iff_not (!i), Bool.not_not]
  -- with the fractions compared, what is left is the trichotomy of the integer parts
  by_cases hU : LowerB i fd bfd <;> simp [hU] <;> omega

theorem FB.isNeg_mk_false (ip : Nat) (fd : List Nat) : FB.isNeg ⟨false, ip, fd⟩ = false := rfl

theorem FB.isNeg_iff (x : FB) : x.isNeg = true ↔ x.neg = true ∧ x.isZero = false := by
  simp [FB.isNeg]

theorem FB.absLt_iff (i : Bool) (a b : FB) :
    (if i then FB.absLt b a = false else FB.absLt a b = true) ↔ leB i a.ip a.fd b.ip b.fd := by
  have h : ∀ a b : FB, FB.absLt a b = true ↔ leB false a.ip a.fd b.ip b.fd := fun a b => by
    simp [FB.absLt, leB, UpperB, fracLtB_iff]
  cases i
  · exact h a b
  · rw [if_pos rfl, ← Bool.not_eq_true, h, leB_not]; rfl

theorem FB.lt_eq (a b : FB) : FB.lt a b = match a.isNeg, b.isNeg with
    | true, false => true
    | false, true => false
    | false, false => FB.absLt a b
    | true, true => FB.absLt b a := rfl

theorem FB.leI_iff (i : Bool) (a b : FB) : FB.leI i a b ↔
    if a.isNeg then (if b.isNeg then leB i b.ip b.fd a.ip a.fd else True)
    else (if b.isNeg then False else leB i a.ip a.fd b.ip b.fd) := by
  rw [← FB.absLt_iff, ← FB.absLt_iff, FB.leI, FB.lt_eq, FB.lt_eq]
  cases a.isNeg <;> cases b.isNeg <;> cases i <;> simp

theorem geB_eq (i : Bool) (ip : Nat) (fd : List Nat) (bip : Nat) (bfd : List Nat) :
    geB i ip fd bip bfd = leB i bip bfd ip fd := rfl

theorem FB.isZero_iff (x : FB) : x.isZero = true ↔ x.ip = 0 ∧ AllZero x.fd := by
  simp [FB.isZero, AllZero]

theorem leB_zero (i : Bool) (x r : FB) (hz : r.isZero = true) :
    leB i x.ip x.fd r.ip r.fd ↔ i = true ∧ x.isZero = true := by
  obtain ⟨h0, hz'⟩ := (FB.isZero_iff r).mp hz
  rw [leB, upperB_eq, lowerB_zeros_right i _ _ hz', h0, FB.isZero_iff]
  by_cases hx : AllZero x.fd <;> cases i <;> simp [hx] <;> omega

theorem geB_zero (i : Bool) (x : FB) :
    geB i x.ip x.fd FB.zero.ip FB.zero.fd ↔ i = true ∨ x.isZero = false := by
  show geB i x.ip x.fd 0 [] ↔ _
  rw [geB, lowerB_nil_left, ← Bool.not_eq_true x.isZero, FB.isZero_iff]
  by_cases hx : AllZero x.fd <;> cases i <;> simp [hx] <;> omega

theorem isZero_false_iff (n : Bool) (ip : Nat) (fd : List Nat) :
    FB.isZero ⟨n, ip, fd⟩ = false ↔ 0 < ip ∨ (0 = ip ∧ fracLT [] fd) :=
  ((geB_zero false ⟨n, ip, fd⟩).trans (by simp)).symm

theorem geB_zero_excl (ip : Nat) (fd : List Nat) :
    geB false ip fd FB.zero.ip FB.zero.fd ↔ 0 < ip ∨ (0 = ip ∧ fracLT [] fd) := Iff.rfl

theorem geB_zero_incl (ip : Nat) (fd : List Nat) : geB true ip fd FB.zero.ip FB.zero.fd :=
  (geB_zero true ⟨false, ip, fd⟩).mpr (Or.inl rfl)

theorem leB_mono {ip bip : Nat} {fd bfd : List Nat} (h : leB false ip fd bip bfd) : leB true ip fd bip bfd :=
  h.imp_right fun h => ⟨h.1, lowerB_mono h.2⟩

theorem FB.lt_asymm {a b : FB} (h : FB.lt a b = true) : FB.lt b a = false := by
  have h1 : FB.leI false a b := h
  show FB.leI true a b
  rw [FB.leI_iff] at h1 ⊢
  cases ha : a.isNeg <;> cases hb : b.isNeg <;>
    simp only [ha, hb, if_true, if_false, Bool.false_eq_true] at h1 ⊢ <;> exact leB_mono h1

theorem not_zero_of_geB {i : Bool} {x r : FB} (h : geB i x.ip x.fd r.ip r.fd) (hr : r.isZero = false) :
    x.isZero = false := by
  cases hz : x.isZero
  · rfl
  · rw [geB_eq, leB_zero i r x hz, hr] at h; exact absurd h.2 (by simp)

theorem FB.lower_neg (i : Bool) (l : FB) {x : FB} (hx : x.isNeg = true) :
    FB.leI i l x ↔ l.isNeg = true ∧ leB i x.ip x.fd l.ip l.fd := by
  rw [FB.leI_iff, hx]; cases l.isNeg <;> simp

theorem FB.lower_pos (i : Bool) (l : FB) {x : FB} (hx : x.isNeg = false) :
    FB.leI i l x ↔ (l.isNeg = false → geB i x.ip x.fd l.ip l.fd) := by
  rw [FB.leI_iff, hx]; cases l.isNeg <;> simp [geB_eq]

theorem FB.upper_neg (i : Bool) (r : FB) {x : FB} (hx : x.isNeg = true) :
    FB.leI i x r ↔ (r.isNeg = true → geB i x.ip x.fd r.ip r.fd) := by
  rw [FB.leI_iff, hx]; cases r.isNeg <;> simp [geB_eq]

theorem FB.upper_pos (i : Bool) (r : FB) {x : FB} (hx : x.isNeg = false) :
    FB.leI i x r ↔ r.isNeg = false ∧ leB i x.ip x.fd r.ip r.fd := by
  rw [FB.leI_iff, hx]; cases r.isNeg <;> simp

/-- `-` stands only before a non-zero magnitude: a statement `Q` about such a literal, by its sign -/
theorem FB.by_sign (x : FB) {Q N P : Prop} (hn : x.isNeg = true → (Q ↔ N)) (hp : x.isNeg = false → (Q ↔ P)) :
    ((x.neg = true → x.isZero = false) ∧ Q) ↔ (x.neg = true ∧ x.isZero = false ∧ N) ∨ (x.neg = false ∧ P) := by
  cases hneg : x.neg
  · simp [hp (by simp [FB.isNeg, hneg])]
  · cases hz : x.isZero
    · simp [hn (by simp [FB.isNeg, hneg, hz])]
    · simp

theorem FB.between_iff (li ri : Bool) (l r x : FB) :
    ((x.neg = true → x.isZero = false) ∧ FB.leI li l x ∧ FB.leI ri x r) ↔
      (x.neg = true ∧ x.isZero = false ∧ (l.isNeg = true ∧ leB li x.ip x.fd l.ip l.fd) ∧
        (r.isNeg = true → geB ri x.ip x.fd r.ip r.fd)) ∨
      (x.neg = false ∧ (l.isNeg = false → geB li x.ip x.fd l.ip l.fd) ∧
        (r.isNeg = false ∧ leB ri x.ip x.fd r.ip r.fd)) :=
  FB.by_sign x (fun h => and_congr (FB.lower_neg li l h) (FB.upper_neg ri r h))
    fun h => and_congr (FB.lower_pos li l h) (FB.upper_pos ri r h)

theorem FB.ge_iff (li : Bool) (l x : FB) :
    ((x.neg = true → x.isZero = false) ∧ FB.leI li l x) ↔
      (x.neg = true ∧ x.isZero = false ∧ l.isNeg = true ∧ leB li x.ip x.fd l.ip l.fd) ∨
      (x.neg = false ∧ (l.isNeg = false → geB li x.ip x.fd l.ip l.fd)) :=
  FB.by_sign x (FB.lower_neg li l) (FB.lower_pos li l)

theorem FB.le_iff (ri : Bool) (r x : FB) :
    ((x.neg = true → x.isZero = false) ∧ FB.leI ri x r) ↔
      (x.neg = true ∧ x.isZero = false ∧ (r.isNeg = true → geB ri x.ip x.fd r.ip r.fd)) ∨
      (x.neg = false ∧ r.isNeg = false ∧ leB ri x.ip x.fd r.ip r.fd) :=
  FB.by_sign x (FB.upper_neg ri r) (FB.upper_pos ri r)

theorem FB.between_neg_neg (li ri : Bool) {l r : FB} (hl : l.isNeg = true) (hr : r.isNeg = true) (x : FB) :
    ((x.neg = true → x.isZero = false) ∧ FB.leI li l x ∧ FB.leI ri x r) ↔
      x.neg = true ∧ geB ri x.ip x.fd r.ip r.fd ∧ leB li x.ip x.fd l.ip l.fd := by
  rw [FB.between_iff]
  simp only [hl, hr, true_and, forall_const, Bool.true_eq_false, false_and, and_false, or_false]
  exact ⟨fun h => ⟨h.1, h.2.2.2, h.2.2.1⟩,
    fun h => ⟨h.1, not_zero_of_geB h.2.1 ((FB.isNeg_iff r).mp hr).2, h.2.2, h.2.1⟩⟩

theorem FB.between_neg_pos (li ri : Bool) {l r : FB} (hl : l.isNeg = true) (hr : r.isNeg = false) (x : FB) :
    ((x.neg = true → x.isZero = false) ∧ FB.leI li l x ∧ FB.leI ri x r) ↔
      (x.neg = true ∧ x.isZero = false ∧ leB li x.ip x.fd l.ip l.fd) ∨
      (x.neg = false ∧ leB ri x.ip x.fd r.ip r.fd) := by
  rw [FB.between_iff]
  simp only [hl, hr, true_and, Bool.false_eq_true, false_imp_iff, and_true, Bool.true_eq_false]

theorem FB.between_pos_pos (li ri : Bool) {l r : FB} (hl : l.isNeg = false) (hr : r.isNeg = false) (x : FB) :
    ((x.neg = true → x.isZero = false) ∧ FB.leI li l x ∧ FB.leI ri x r) ↔
      x.neg = false ∧ geB li x.ip x.fd l.ip l.fd ∧ leB ri x.ip x.fd r.ip r.fd := by
  rw [FB.between_iff]
  simp only [hl, hr, Bool.false_eq_true, false_and, and_false, false_or, forall_const, true_and]

theorem floatBoth_lang {l r : FB} {li ri : Bool} {p : PR} (h : floatBoth l r li ri = .ok p)
    (hl : AllDig l.fd) (hln : NTZ l.fd) (hr : AllDig r.fd) (hrn : NTZ r.fd) (hlt : FB.lt l r = true) :
    Spells litB FB.Dig p.rx
      (fun x => (x.neg = true → x.isZero = false) ∧ FB.leI li l x ∧ FB.leI ri x r) := by
  have hlr := (FB.leI_iff false l r).mp hlt
  -- `left < 0`: `-` before the magnitudes in `(0, |left|]`
  have hneg : l.isNeg = true → ∀ {np}, floatPos FB.zero l.negate false li = .ok np →
      Spells litB FB.Dig (cat minus np.rx)
        (fun x => x.neg = true ∧ x.isZero = false ∧ leB li x.ip x.fd l.ip l.fd) := fun hl' _ hnp =>
    ((floatPos_lang hnp allDig_nil trivial hl hln
      ((geB_zero false l).mpr (Or.inr ((FB.isNeg_iff l).mp hl').2))).negLit fun x hx => hx.1).congr
      fun x _ => and_congr_right fun hn => by
        simp only [FB.negate, hn, Bool.not_true, true_and, geB_zero, Bool.false_eq_true, false_or]
  revert h
  fun_cases floatBoth l r li ri <;> intro h
  -- cases 1 to 3: `right < left`, or equal bounds
  case case1 hrl => rw [FB.lt_asymm hlt] at hrl; cases hrl
  case case2 hlr' _ _ _ | case3 hlr' _ _ _ => simp [hlt] at hlr'
  case case5 _ _ hl' hr' q hq =>
    -- both negative: the mirrored positive range behind `-`
    cases h
    simp only [show l.isNeg = true from hl', show r.isNeg = true from hr', if_true] at hlr
    refine ((floatPos_lang hq hr hrn hl hln hlr).negLit fun x hx => hx.1).congr
      fun x _ => ?_
    rw [FB.between_neg_neg li ri hl' hr']
    exact and_congr_right fun hn => by simp only [FB.negate, hn, Bool.not_true, true_and]
  case case8 _ _ hl' hr' np hnp negPart _ hrz hri =>
    -- `left < 0`, `right = 0` inclusive: the negative part and the spellings of zero
    cases h
    subst hri
    refine ((hneg hl' hnp).alts_cons (Spells.alts_one (spells_lit (spells_litDec 0) spells_dotZeros))).congr
      fun x _ => ?_
    rw [FB.between_neg_pos li true hl' (Bool.eq_false_iff.mpr hr'), leB_zero true x r hrz, FB.isZero_iff]
    simp
  case case10 _ _ hl' hr' np hnp negPart _ hrz pp hpp =>
    -- `left < 0 < right`
    cases h
    have hr0 := (geB_zero false r).mpr (Or.inr (by simpa using hrz))
    refine ((hneg hl' hnp).alts_cons (Spells.alts_one
      (floatPos_lang hpp allDig_nil trivial hr hrn hr0))).congr fun x _ => ?_
    rw [FB.between_neg_pos li ri hl' (Bool.eq_false_iff.mpr hr')]
    simp only [geB_zero, true_or, true_and]
  case case12 _ _ hl' hr' np hnp negPart hc =>
    -- `left < 0`, `right = 0` exclusive: the negative part alone
    cases h
    obtain ⟨hrz, rfl⟩ : r.isZero = true ∧ ri = false := by simpa using hc
    refine (Spells.alts_one (hneg hl' hnp)).congr fun x _ => ?_
    rw [FB.between_neg_pos li false hl' (Bool.eq_false_iff.mpr hr'), leB_zero false x r hrz]
    simp
  case case13 _ _ hl' =>
    -- `0 ≤ left`, so `0 < right`
    have hl' : l.isNeg = false := Bool.eq_false_iff.mpr hl'
    have hr' : r.isNeg = false := by
      cases hr' : r.isNeg
      · rfl
      · simp [hl', hr'] at hlr
    simp only [hl', hr', Bool.false_eq_true, if_false] at hlr
    exact (floatPos_lang h hl hln hr hrn hlr).congr fun x _ =>
      (FB.between_pos_pos li ri hl' hr' x).symm
  all_goals cases h

theorem FB.lt_of_leB {a b : FB} (ha : a.isNeg = false) (hb : b.isNeg = false)
    (h : leB false a.ip a.fd b.ip b.fd) : FB.lt a b = true :=
  (FB.leI_iff false a b).mpr (by simpa only [ha, hb, Bool.false_eq_true, if_false] using h)

theorem floatGe_nonneg_lang {l : FB} {li : Bool} {p : PR} (h : floatGe l li = .ok p)
    (hneg : l.isNeg = false) (hl : AllDig l.fd) (hln : NTZ l.fd) :
    Spells litB FB.Dig p.rx (fun x => x.neg = false ∧ geB li x.ip x.fd l.ip l.fd) := by
  unfold floatGe at h
  change (if l.isNeg = true then _ else _) = _ at h  -- the model's test is `l.isNeg` unfolded
  simp only [hneg, Bool.false_eq_true, if_false] at h
  have hlt := lt_pow_numDigits l.ip
  split at h
  · rename_i a ha
    injection h with h; subst h
    have hb := floatBoth_lang ha hl hln allDig_nil trivial
      (FB.lt_of_leB hneg rfl (Or.inl hlt))
    refine (hb.alts_cons (Spells.alts_one (spells_lit (lang_bigRx _) spells_optFracAny))).congr
      fun x _ => ?_
    have hnf : ∀ fd, ¬ LowerB false fd [] := fun fd h => by simpa using ((lowerB_nil_right false fd).mp h).1
    rw [FB.between_pos_pos li false hneg rfl, ← and_or_left]
    simp only [leB, upperB_eq, FB.ofNat, hnf, and_false, or_false, and_true]
    -- the integer part of the literal is below `10^d`, or not
    exact and_congr_right fun _ => ⟨fun h => h.elim And.left fun h => Or.inl (by omega),
      fun h => (Nat.lt_or_ge x.ip (10 ^ numDigits l.ip)).imp (fun h' => ⟨h, h'⟩) id⟩
  · cases h

theorem floatGe_lang {l : FB} {li : Bool} {p : PR} (h : floatGe l li = .ok p)
    (hl : AllDig l.fd) (hln : NTZ l.fd) :
    Spells litB FB.Dig p.rx (fun x => (x.neg = true → x.isZero = false) ∧ FB.leI li l x) := by
  cases hneg : l.isNeg
  · refine (floatGe_nonneg_lang h hneg hl hln).congr fun x _ => ?_
    rw [FB.ge_iff]
    cases hn : x.neg <;> simp only [hneg, true_and, forall_const, Bool.true_eq_false, Bool.false_eq_true,
      false_and, and_false, false_or, or_false]
  · unfold floatGe at h
    change (if l.isNeg = true then _ else _) = _ at h
    simp only [hneg, if_true] at h
    split at h
    · rename_i a b ha hb
      injection h with h; subst h
      have h1 := floatBoth_lang ha hl hln allDig_nil trivial
        ((FB.leI_iff false l FB.zero).mpr (by simp only [hneg, if_true, FB.zero, FB.isNeg_mk_false,
          Bool.false_eq_true, if_false]))
      have h2 := floatGe_nonneg_lang (l := FB.zero) (li := true) hb rfl allDig_nil trivial
      refine (h1.alts_cons (Spells.alts_one h2)).congr fun x _ => ?_
      rw [FB.between_neg_pos li false hneg rfl, FB.ge_iff, leB_zero false x FB.zero rfl]
      simp only [hneg, (geB_zero true x).mpr (Or.inl rfl), true_and, and_true, Bool.false_eq_true, false_and,
        and_false, or_false, Bool.true_eq_false, false_imp_iff]
    · cases h

/-- The digits of `right` are asked for only where `floatLe` looks at them: it tests `isZero` first. -/
theorem floatLe_lang {r : FB} {ri : Bool} {p : PR} (h : floatLe r ri = .ok p)
    (hr : r.isZero = false → AllDig r.fd ∧ NTZ r.fd) :
    Spells litB FB.Dig p.rx (fun x => (x.neg = true → x.isZero = false) ∧ FB.leI ri x r) := by
  -- `-` before the magnitudes above zero
  have hpos : ∀ {g}, floatGe FB.zero false = .ok g → Spells litB FB.Dig (cat minus g.rx)
      (fun x => x.neg = true ∧ x.isZero = false) := fun hg =>
    ((floatGe_nonneg_lang hg rfl allDig_nil trivial).negLit fun x hx => hx.1).congr
      fun x _ => and_congr_right fun hn => by
        rw [geB_zero false x.negate]
        simp only [FB.negate, hn, Bool.not_true, true_and, Bool.false_eq_true, false_or]
        exact Iff.rfl
  -- at a zero bound: the negative literals, and the spellings of zero if the bound is inclusive
  have hzero : r.isZero = true → ∀ x : FB, ((x.neg = true → x.isZero = false) ∧ FB.leI ri x r) ↔
      (x.neg = true ∧ x.isZero = false) ∨ (ri = true ∧ x.neg = false ∧ x.ip = 0 ∧ AllZero x.fd) := fun hz x => by
    rw [FB.le_iff, leB_zero ri x r hz, FB.isZero_iff]
    simp only [show r.isNeg = false by simp [FB.isNeg, hz], Bool.false_eq_true, false_imp_iff, and_true,
      true_and, and_left_comm]
  revert h
  fun_cases floatLe r ri <;> intro h
  case case2 hz g hg n hri =>
    cases h
    subst hri
    exact ((hpos hg).alts_cons (Spells.alts_one (spells_lit (spells_litDec 0) spells_dotZeros))).congr
      fun x _ => by simp [hzero hz]
  case case3 hz g hg n hri =>
    injection h with h; subst h
    obtain rfl : ri = false := by simpa using hri
    exact (hpos hg).congr fun x _ => by simp [hzero hz]
  case case4 hz hneg g b hb hg =>
    -- `right > 0`
    cases h
    have hz' : r.isZero = false := by simpa using hz
    have hrneg : r.isNeg = false := by simp [FB.isNeg, show r.neg = false by simpa using hneg]
    have hb' := floatBoth_lang hb allDig_nil trivial (hr hz').1 (hr hz').2
      (FB.lt_of_leB rfl hrneg ((geB_zero false r).mpr (Or.inr hz')))
    refine ((hpos hg).alts_cons (Spells.alts_one hb')).congr fun x _ => ?_
    rw [FB.between_pos_pos true ri rfl hrneg, FB.le_iff]
    simp only [hrneg, (geB_zero true x).mpr (Or.inl rfl), true_and, Bool.false_eq_true, false_imp_iff, and_true]
  case case6 hz hneg g hg =>
    -- `right < 0`
    cases h
    have hz' : r.isZero = false := by simpa using hz
    have hrneg : r.isNeg = true := by simpa [FB.isNeg, hz'] using hneg
    have hneg' : r.negate.isNeg = false := by simp [FB.isNeg, FB.negate, (FB.isNeg_iff r).mp hrneg]
    refine ((floatGe_nonneg_lang hg hneg' (hr hz').1 (hr hz').2).negLit fun x hx => hx.1).congr
      fun x _ => ?_
    rw [FB.le_iff]
    cases hn : x.neg <;> simp only [hrneg, FB.negate, hn, true_and, forall_const, Bool.true_eq_false,
      Bool.false_eq_true, false_and, and_false, or_false, Bool.not_true, or_self]
    exact ⟨fun h => ⟨not_zero_of_geB h hz', h⟩, And.right⟩
  all_goals cases h

end LlgVerif
