/- Token-range arithmetic: the stable sort by start and the complement loop of
`negated_token_ranges`. -/
import LlgVerif.Model.TokRanges
import LlgVerif.Proofs.ListFacts
namespace LlgVerif

theorem inRanges_iff (rs : List TRange) (t : Nat) :
    inRanges rs t = true ↔ ∃ r ∈ rs, r.1 ≤ t ∧ t ≤ r.2 := by
  simp only [inRanges, List.any_eq_true, Bool.and_eq_true, decide_eq_true_eq]

theorem inRanges_cons (r : TRange) (rs : List TRange) (t : Nat) :
    inRanges (r :: rs) t = true ↔ (r.1 ≤ t ∧ t ≤ r.2) ∨ inRanges rs t = true := by
  simp only [inRanges, List.any_cons, Bool.or_eq_true, Bool.and_eq_true, decide_eq_true_eq]

theorem inRanges_concat (rs : List TRange) (r : TRange) (t : Nat) :
    inRanges (rs ++ [r]) t = true ↔ inRanges rs t = true ∨ (r.1 ≤ t ∧ t ≤ r.2) := by
  simp only [inRanges, List.any_append, List.any_cons, List.any_nil, Bool.or_false,
    Bool.or_eq_true, Bool.and_eq_true, decide_eq_true_eq]

theorem mem_insertByStart (x y : TRange) (l : List TRange) :
    y ∈ insertByStart x l ↔ y = x ∨ y ∈ l := by
  induction l with
  | nil => simp [insertByStart]
  | cons z zs ih => simp only [insertByStart]; split <;> simp [ih, or_left_comm]

theorem sorted_insertByStart (x : TRange) (l : List TRange) (h : l.Pairwise (·.1 ≤ ·.1)) :
    (insertByStart x l).Pairwise (·.1 ≤ ·.1) := by
  induction l with
  | nil => simp [insertByStart]
  | cons z zs ih =>
    obtain ⟨h1, h2⟩ := List.pairwise_cons.mp h
    simp only [insertByStart]
    split
    · rename_i hz
      simp only [List.pairwise_cons, mem_insertByStart, forall_eq_or_imp]
      exact ⟨⟨hz, h1⟩, ih h2⟩
    · rename_i hz
      have hxz := Nat.le_of_not_le hz
      exact List.pairwise_cons.mpr
        ⟨List.forall_mem_cons.mpr ⟨hxz, fun y hy => Nat.le_trans hxz (h1 y hy)⟩, h⟩

theorem sortByStart_spec (rs : List TRange) :
    (sortByStart rs).Pairwise (·.1 ≤ ·.1) ∧ ∀ y, y ∈ sortByStart rs ↔ y ∈ rs :=
  ⟨List.foldlRecOn rs _ .nil fun acc h x _ => sorted_insertByStart x acc h, fun y => by
    simpa [sortByStart] using mem_foldl_insert mem_insertByStart rs [] y⟩

theorem inRanges_sortByStart (rs : List TRange) (t : Nat) :
    inRanges (sortByStart rs) t = inRanges rs t := by
  rw [Bool.eq_iff_iff, inRanges_iff, inRanges_iff]
  simp only [(sortByStart_spec rs).2]

theorem negLoop_cons_lt {s e cur : Nat} (rest : List TRange) (acc : List TRange) (h : e < cur) :
    negLoop ((s, e) :: rest) cur acc = negLoop rest cur acc := by
  rw [negLoop, if_pos h]

theorem negLoop_cons_ge {s e cur : Nat} (rest : List TRange) (acc : List TRange) (h : ¬ e < cur) :
    negLoop ((s, e) :: rest) cur acc =
      negLoop rest (max cur (e + 1)) (if s > cur then acc ++ [(cur, s - 1)] else acc) := by
  rw [negLoop, if_neg h]

theorem negLoop_fst_le_iff (rest : List TRange) (cur : Nat) (acc : List TRange) (B : Nat) :
    (negLoop rest cur acc).1 ≤ B ↔ cur ≤ B ∧ ∀ r ∈ rest, r.2 < B := by
  induction rest generalizing cur acc with
  | nil => simp [negLoop]
  | cons x xs ih =>
    obtain ⟨s, e⟩ := x
    simp only [List.forall_mem_cons]
    by_cases h : e < cur
    · rw [negLoop_cons_lt xs acc h, ih]
      exact ⟨fun ⟨a, b⟩ => ⟨a, by omega, b⟩, fun ⟨a, _, b⟩ => ⟨a, b⟩⟩
    · rw [negLoop_cons_ge xs acc h, ih, Nat.max_le]
      exact and_assoc

/-- what one range `(s, e)` contributes when it does not end below `cur`: the gap `cur .. s-1`,
and the loop goes on from `max cur (e + 1)`; `P` stands for membership in the later ranges, which
start at or after `s` -/
theorem gap_step {cur s e V t : Nat} {P : Prop} (hse : s ≤ e) (hV : e ≤ V)
    (hP : t < s → ¬ P) :
    (cur ≤ t ∧ t < s) ∨ (max cur (e + 1) ≤ t ∧ t ≤ V ∧ ¬ P) ↔
      cur ≤ t ∧ t ≤ V ∧ ¬ ((s ≤ t ∧ t ≤ e) ∨ P) := by
  by_cases hp : P
  · have hs : ¬ t < s := fun h => hP h hp
    simp only [hp, not_true_eq_false, and_false, or_false, or_true, iff_false]
    omega
  · simp only [hp, not_false_eq_true, and_true, or_false]
    omega

/-- The loop over ranges sorted by start, from any `cur` and `acc`, with the gap from the final `cur`
to `V` closed as `negated_token_ranges` does after it (a range `(a, V)` with `a > V` holds nothing): it
only adds to `acc`, and at or above `cur` it adds exactly the ids up to `V` that no range holds.
Sortedness is what makes a gap `cur .. s-1` final: every later range starts at or after `s`. -/
theorem negLoop_spec (rest : List TRange) (cur : Nat) (acc : List TRange) (V : Nat)
    (hs : rest.Pairwise (·.1 ≤ ·.1)) (hwf : ∀ r ∈ rest, r.1 ≤ r.2 ∧ r.2 ≤ V) (t : Nat) :
    inRanges ((negLoop rest cur acc).2 ++ [((negLoop rest cur acc).1, V)]) t = true ↔
      inRanges acc t = true ∨ (cur ≤ t ∧ t ≤ V ∧ inRanges rest t = false) := by
  simp only [← Bool.not_eq_true]
  induction rest generalizing cur acc with
  | nil =>
    rw [inRanges_concat]
    exact or_congr_right (and_congr_right fun _ => (and_iff_left Bool.false_ne_true).symm)
  | cons x xs ih =>
    obtain ⟨s, e⟩ := x
    obtain ⟨hx1, hx2⟩ := List.pairwise_cons.mp hs
    obtain ⟨⟨hse, hV⟩, hwf'⟩ := List.forall_mem_cons.mp hwf
    rw [inRanges_cons]
    by_cases h : e < cur
    · rw [negLoop_cons_lt xs acc h, ih cur acc hx2 hwf']
      exact or_congr_right <| and_congr_right fun a => and_congr_right fun _ =>
        not_congr ⟨.inr, fun h' => h'.resolve_left fun ⟨_, b⟩ =>
          Nat.not_lt.mpr (Nat.le_trans a b) h⟩
    · rw [negLoop_cons_ge xs acc h, ih _ _ hx2 hwf', ← gap_step hse hV, ← or_assoc]
      · refine or_congr_left ?_
        split
        · rename_i hsc
          rw [inRanges_concat]
          exact or_congr_right (and_congr_right fun _ =>
            Nat.le_sub_one_iff_lt (Nat.zero_lt_of_lt hsc))
        · rename_i hsc
          exact ⟨.inl, fun h' => h'.elim id fun ⟨a, b⟩ => absurd (Nat.lt_of_le_of_lt a b) hsc⟩
      · -- an id below `s` lies below every later range
        intro hts hin
        obtain ⟨r, hr, hr1, _⟩ := (inRanges_iff xs t).mp hin
        exact Nat.not_lt.mpr (Nat.le_trans (hx1 r hr) hr1) hts

theorem negatedRanges?_eq_some {vocab : Nat} {rs out : List TRange}
    (h : negatedRanges? vocab rs = some out) :
    rs ≠ [] ∧ (∀ r ∈ rs, r.2 < vocab ∧ r.1 ≤ r.2) ∧ ∃ res, res = negLoop (sortByStart rs) 0 [] ∧
      out = if res.1 ≤ vocab - 1 then res.2 ++ [(res.1, vocab - 1)] else res.2 := by
  unfold negatedRanges? at h
  split at h
  · cases h -- no range given
  split at h
  · cases h -- a range reaches past the vocabulary or is inverted
  rename_i hne hbad
  refine ⟨fun e => hne (e ▸ rfl), fun r hr => ?_, _, rfl, (Option.some.inj h).symm⟩
  have hb := Bool.eq_false_iff.mpr fun hb => hbad (List.any_eq_true.mpr ⟨r, hr, hb⟩)
  simp only [Bool.or_eq_false_iff, Bool.not_eq_eq_eq_not, Bool.not_false, decide_eq_true_eq] at hb
  exact hb

/-- a closing range that would hold nothing is left out -/
theorem inRanges_close (acc : List TRange) (a b t : Nat) :
    inRanges (if a ≤ b then acc ++ [(a, b)] else acc) t = inRanges (acc ++ [(a, b)]) t := by
  split
  · rfl
  · rw [Bool.eq_iff_iff, inRanges_concat]
    exact ⟨.inl, fun h => h.elim id fun ⟨_, _⟩ => by omega⟩

end LlgVerif
