/-
Derivations by the rules alone (`DerP`: no appeal to the nullable flags) and their equivalence with
`Der` when the flags are sound (`CG.nullableSound`: each flagged symbol is reached by the
least-fixed-point computation `nullIter`).  The check is one a user may run: neither the driver nor the
harness evaluates it, and on the engine's dumps it can hold only for grammars without nullable symbols,
since `CGrammar` drops empty rules and keeps the flag.
-/
import LlgVerif.Proofs.Earley
namespace LlgVerif
namespace Ey

mutual
/-- `Der` without `Der.null`: derivations by the rules alone -/
inductive DerP (g : CG) (inp : List (List Nat)) : Nat → Nat → Nat → Prop where
  | lex {s i l} : (g.sym s).lexeme = some l → l ∈ inp.getD i [] → i < inp.length → DerP g inp s i (i + 1)
  | rule {s r p i j} : r ∈ (g.sym s).rules → SeqP g inp r p i j → g.atDot p = 0 → DerP g inp s i j
inductive SeqP (g : CG) (inp : List (List Nat)) : Nat → Nat → Nat → Nat → Prop where
  | nil {r i} : SeqP g inp r r i i
  | snoc {r p i k j} : SeqP g inp r p i k → g.atDot p ≠ 0 → DerP g inp (g.atDot p) k j → SeqP g inp r (p + 1) i j
end

mutual
theorem der_of_derP {g : CG} {inp : List (List Nat)} {s i j : Nat} : DerP g inp s i j → Der g inp s i j
  | .lex h1 h2 h3 => Der.lex h1 h2 h3
  | .rule hr hs hd => Der.rule hr (seq_of_seqP hs) hd
theorem seq_of_seqP {g : CG} {inp : List (List Nat)} {r p i j : Nat} : SeqP g inp r p i j → Seq g inp r p i j
  | .nil => Seq.nil
  | .snoc hs hne hd => Seq.snoc (seq_of_seqP hs) hne (der_of_derP hd)
end

/-- what a passed `CG.nullableSound` establishes (`nullSound_of_check`) -/
def NullSound (g : CG) : Prop := ∀ s, (g.sym s).nullable = true → ∀ inp i, DerP g inp s i i

mutual
theorem derP_of_der {g : CG} (hs : NullSound g) {inp : List (List Nat)} {s i j : Nat} :
    Der g inp s i j → DerP g inp s i j
  | .lex h1 h2 h3 => DerP.lex h1 h2 h3
  | .null h => hs _ h inp _
  | .rule hr hq hd => DerP.rule hr (seqP_of_seq hs hq) hd
theorem seqP_of_seq {g : CG} (hs : NullSound g) {inp : List (List Nat)} {r p i j : Nat} :
    Seq g inp r p i j → SeqP g inp r p i j
  | .nil => SeqP.nil
  | .snoc hq hne hd => SeqP.snoc (seqP_of_seq hs hq) hne (derP_of_der hs hd)
end

theorem seq_iff_seqP {g : CG} (hs : NullSound g) {inp : List (List Nat)} {r p i j : Nat} :
    Seq g inp r p i j ↔ SeqP g inp r p i j :=
  ⟨seqP_of_seq hs, seq_of_seqP⟩

theorem nullIter_sound (g : CG) (inp : List (List Nat)) (i : Nat) :
    ∀ n s, s ∈ nullIter g n → DerP g inp s i i := by
  intro n
  induction n with
  | zero => intro s hs; cases hs
  | succ n ih =>
    intro s hs
    simp only [nullIter, nullStep, List.mem_filter, List.mem_range, Bool.or_eq_true,
      List.any_eq_true, List.all_eq_true] at hs
    obtain ⟨_, h | ⟨r, hr, hall⟩⟩ := hs
    · exact ih s (by simpa using h)
    · -- a rule all of whose symbols derive the empty span derives it too
      obtain ⟨p, hp, h0⟩ := rhsFrom_walk (S := fun q => SeqP g inp r q i i) (A := (· ∈ nullIter g n))
        (fun q hs hne hx => SeqP.snoc hs hne (ih _ hx)) g.rhs.size r (by omega) SeqP.nil
        (fun x hx => by simpa using hall x hx)
      exact DerP.rule hr hp h0

theorem nullSound_of_check (g : CG) (h : g.nullableSound = true) : NullSound g := by
  intro s hs inp i
  have := List.all_eq_true.mp h s (List.mem_range.mpr (sym_lt_of_nullable hs))
  exact nullIter_sound g inp i _ s (by simpa [hs] using this)

end Ey
end LlgVerif
