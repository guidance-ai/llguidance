/- Mask cache (`Model/Cache.lean`): under `CacheInv` a cached step answers like the cache-free step and differs
from it in the cache field only. -/
import LlgVerif.Model.Cache
namespace LlgVerif

variable {R L M : Type} [DecidableEq L] (fresh : List R → L → Bool → M)

omit [DecidableEq L] in
theorem cacheInv_none (s : CState R L M) (h : s.cache = none) :
    CacheInv fresh s := fun l i p m hc => by rw [h] at hc; cases hc

theorem computeBias_spec (s : CState R L M)
    (hinv : CacheInv fresh s) (hne : s.rows ≠ []) :
    ∃ c', computeBias fresh s = (fresh s.rows s.ls s.pending, { s with cache := c' }) ∧
      CacheInv fresh { s with cache := c' } := by
  have hpos := List.length_pos_iff.mpr hne
  have htake : s.rows.take (s.rows.length - 1 + 1) = s.rows := by
    rw [Nat.sub_add_cancel hpos, List.take_length]
  have hstore : CacheInv fresh
      { s with cache := some (s.ls, s.rows.length - 1, s.pending, fresh s.rows s.ls s.pending) } := by
    rintro l i p m ⟨⟩
    exact ⟨Nat.sub_lt hpos Nat.one_pos, by rw [htake]⟩
  unfold computeBias
  split
  · rename_i l i p m hc
    split
    · rename_i hhit
      obtain ⟨rfl, rfl, rfl⟩ := hhit
      refine ⟨s.cache, ?_, hinv⟩
      rw [(hinv _ _ _ m hc).2, htake]
    · exact ⟨_, rfl, hstore⟩
  · exact ⟨_, rfl, hstore⟩

theorem crunFresh_cache (s : CState R L M)
    (c' : Option (L × Nat × Bool × M)) (ops : List (COp R L)) :
    crunFresh fresh { s with cache := c' } ops = crunFresh fresh s ops := by
  cases ops <;> rfl

/-- `clear = true`: the `rollback` that drops the cache (with `false` the statement fails: the example of
`Props/C11.lean`) -/
theorem cstep_spec (s : CState R L M) (op : COp R L)
    (hinv : CacheInv fresh s) (hne : s.rows ≠ [])
    (hkeep : ∀ k ls p, op = .rollback k ls p → 0 < k) :
    ∃ c', cstep fresh true s op =
        ((match op with | .mask => some (fresh s.rows s.ls s.pending) | _ => none),
         { (cstep fresh true { s with cache := none } op).2 with cache := c' }) ∧
      CacheInv fresh (cstep fresh true s op).2 ∧ (cstep fresh true s op).2.rows ≠ [] := by
  cases op with
  | advance nr ls p =>
    refine ⟨s.cache, rfl, fun l i p' m h => ?_, List.append_ne_nil_of_left_ne_nil hne nr⟩
    obtain ⟨h1, h2⟩ := hinv l i p' m h
    exact ⟨by simp [cstep]; omega, by
      rw [h2]; simp only [cstep]; rw [List.take_append_of_le_length h1]⟩
  | rollback k ls p =>
    exact ⟨none, rfl, cacheInv_none fresh _ rfl, fun hc =>
      (List.take_eq_nil_iff.mp hc).elim (Nat.ne_of_gt (hkeep k ls p rfl)) hne⟩
  | mask =>
    obtain ⟨c', he, hi⟩ := computeBias_spec fresh s hinv hne
    obtain ⟨c0, he0, _⟩ :=
      computeBias_spec fresh { s with cache := none } (cacheInv_none fresh _ rfl) hne
    simp only [cstep, he, he0]
    exact ⟨c', rfl, hi, hne⟩
  | invalidate => exact ⟨none, rfl, cacheInv_none fresh _ rfl, hne⟩

end LlgVerif
