/- Derivations of S4 (`DL`): how they concatenate and split. -/
import LlgVerif.Spec.Cfg
namespace LlgVerif
namespace Cfg

variable {N : Type}

theorem DL_nil_inv {G : Gram N} {w : List B} (h : DL G [] w) : w = [] := by
  cases h; rfl

theorem DL_append {G : Gram N} {α β : List (Sym N)} {u v : List B} (h1 : DL G α u) (h2 : DL G β v) :
    DL G (α ++ β) (u ++ v) := by
  induction h1 with
  | nil => simpa using h2
  | t a b _ ih => exact DL.t a b ih
  | @nt a γ α' u1 u2 hr hγ _ _ ih2 =>
    have := DL.nt hr hγ ih2
    simpa [List.append_assoc] using this

theorem DL_single {G : Gram N} {a : N} {β : List (Sym N)} {u : List B} (hr : (a, β) ∈ G)
    (h : DL G β u) : DL G [Sym.nt a] u := by
  have := DL.nt hr h DL.nil
  simpa using this

theorem DL_single_inv {G : Gram N} {a : N} {x : List B} (h : DL G [Sym.nt a] x) :
    ∃ β, (a, β) ∈ G ∧ DL G β x := by
  cases h with
  | nt hr hβ hnil => cases hnil; exact ⟨_, hr, by simpa using hβ⟩

theorem DL_split {G : Gram N} {γ1 γ2 : List (Sym N)} {w : List B} (h : DL G (γ1 ++ γ2) w) :
    ∃ u v, w = u ++ v ∧ DL G γ1 u ∧ DL G γ2 v := by
  induction γ1 generalizing w with
  | nil => exact ⟨[], w, rfl, DL.nil, h⟩
  | cons s γ1 ih =>
    cases h with
    | t h1 h2 h3 =>
      obtain ⟨u, v, rfl, hu, hv⟩ := ih h3
      exact ⟨_ :: u, v, rfl, DL.t h1 h2 hu, hv⟩
    | nt hr hβ hrest =>
      obtain ⟨u, v, rfl, hu, hv⟩ := ih hrest
      exact ⟨_ ++ u, v, (List.append_assoc ..).symm, DL.nt hr hβ hu, hv⟩

end Cfg
end LlgVerif
