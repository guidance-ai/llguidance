/-
`is_verifiably_disjoint_from` is sound; hence a `oneOf` with pairwise verifiably disjoint options means
the `anyOf` that `normalize` turns it into.  The proof follows the arms of `disjoint` (its induction
principle; the two loops over options are the other two motives).
-/
import LlgVerif.Proofs.SchemaObj
namespace LlgVerif
namespace Sch
open Js
variable {ρ : String → String → Bool} {isMult : Dec → Num → Bool}

theorem satCount_of_satAny_false (v : Json) : ∀ l : SchL, satAny ρ isMult l v = false → satCount ρ isMult l v = 0
  | .nil, _ => rfl
  | .cons h t, hd => by
      simp only [satAny, Bool.or_eq_false_iff] at hd
      simp only [satCount, hd.1, satCount_of_satAny_false v t hd.2, Bool.false_eq_true, ↓reduceIte]

theorem not_sat_opts {l : SchL} {v : Json} (h : satAny ρ isMult l v = false) :
    ¬ sat ρ isMult (.anyOf l) v = true ∧ ¬ sat ρ isMult (.oneOf l) v = true :=
  ⟨fun hs => Bool.noConfusion (h.symm.trans hs),
    fun hs => by simp only [sat, satCount_of_satAny_false v l h] at hs; exact Bool.noConfusion hs⟩

theorem isLit_sat {r : Option RxT} {t s : String} (hr : isLit r = some t)
    (h : optAll r (fun r => satRx ρ r s) = true) : s = t := by
  match r, hr with
  | some (.lit _), rfl => exact beq_iff_eq.mp h

theorem basic_of_ne {a : Sch} (h1 : a = .unsat → False) (h2 : a = .any → False)
    (h3 : ∀ o, a = .anyOf o → False) (h4 : ∀ o, a = .oneOf o → False) : a.basic = true := by
  cases a <;> first | rfl | exact (h1 rfl).elim | exact (h2 rfl).elim | exact (h3 _ rfl).elim | exact (h4 _ rfl).elim

theorem disjoint_sound_all :
    (∀ f a b, disjoint f a b = true → ∀ v, sat ρ isMult a v = true → sat ρ isMult b v = true → False) ∧
    (∀ f a l, disjAllR f a l = true → ∀ v, sat ρ isMult a v = true → satAny ρ isMult l v = false) ∧
    (∀ f l b, disjAllL f l b = true → ∀ v, sat ρ isMult b v = true → satAny ρ isMult l v = false) := by
  -- the motives speak of the value `r` of the call, so that each case shows the arm that computed it
  apply disjoint.mutual_induct_unfolding
    (motive1 := fun _ a b r => r = true → ∀ v, sat ρ isMult a v = true → sat ρ isMult b v = true → False)
    (motive2 := fun _ a l r => r = true → ∀ v, sat ρ isMult a v = true → satAny ρ isMult l v = false)
    (motive3 := fun _ l b r => r = true → ∀ v, sat ρ isMult b v = true → satAny ρ isMult l v = false)
  case case1 => -- no fuel
    intro a b h; cases h
  case case2 => -- `unsat`, _
    intro n b _ v ha _; exact Bool.noConfusion ha
  case case3 => -- _, `unsat`
    intro n a _ _ v _ hb; exact Bool.noConfusion hb
  case case4 => -- `any`, _
    intro n b b_unsat h; cases h
  case case5 => -- _, `any`
    intro n a a_unsat a_any h; cases h
  case case6 => -- two boolean constants
    intro n v1 v2 h v ha hb
    cases v <;> first | exact Bool.noConfusion ha | skip
    cases v1 <;> cases v2 <;> first | exact Bool.noConfusion h | skip
    exact bne_iff_ne.mp h (congrArg some ((beq_iff_eq.mp ha).trans (beq_iff_eq.mp hb).symm))
  -- options on one side: the other side is disjoint from each (the loops, `ih`), so no option has `v`
  case case7 => -- `anyOf`, _
    intro f opts b b_unsat b_any ih h v ha hb
    exact (not_sat_opts (ih h v hb)).1 ha
  case case8 => -- _, `anyOf`
    intro f a opts a_unsat a_any a_anyOf ih h v ha hb
    exact (not_sat_opts (ih h v ha)).1 hb
  case case9 => -- `oneOf`, _
    intro f opts b b_unsat b_any b_anyOf ih h v ha hb
    exact (not_sat_opts (ih h v hb)).2 ha
  case case10 => -- _, `oneOf`
    intro f a opts a_unsat a_any a_anyOf a_oneOf ih h v ha hb
    exact (not_sat_opts (ih h v ha)).2 hb
  case case11 => -- two strings, both literals
    intro n l1 h1 r1 l2 h2 r2 a b e2 e1 h v ha hb
    cases v <;> first | exact Bool.noConfusion ha | skip
    simp only [sat, Bool.and_eq_true] at ha hb
    exact bne_iff_ne.mp h ((isLit_sat e1 ha.2).symm.trans (isLit_sat e2 hb.2))
  case case12 => -- two strings, not both literals: not declared disjoint
    intro n l1 h1 r1 l2 h2 r2 hne h
    simp only [Sch.tag, bne_self_eq_false, Bool.false_eq_true] at h
  case case13 => -- two objects: a required member whose two schemas are disjoint
    intro f p1 n1 a1 r1 lo1 hi1 p2 n2 a2 r2 lo2 hi2 ih h v ha hb
    cases v <;> first | exact Bool.noConfusion ha | skip
    rename_i kvs
    obtain ⟨key, hkey, hd⟩ := List.any_eq_true.mp h
    simp only [sat, Bool.and_eq_true, List.all_eq_true] at ha hb
    have hpres : kvs.any (fun kv => kv.1 == key) = true := by
      rcases List.mem_append.mp hkey with hk | hk
      · exact ha.1.1.1 key hk
      · exact hb.1.1.1 key (List.mem_filter.mp hk).1
    obtain ⟨kv, hkv, hke⟩ := List.any_eq_true.mp hpres
    have s1 := ha.2 kv hkv
    have s2 := hb.2 kv hkv
    rw [beq_iff_eq.mp hke, ← propSchema_sat] at s1 s2
    exact ih key hd kv.2 s1 s2
  case case14 => -- the default arm: two basic nodes, compared by tag
    intro n a b a_unsat b_unsat a_any b_any _ a_anyOf b_anyOf a_oneOf b_oneOf _ _ h v ha hb
    exact tag_ne_sat h (basic_of_ne a_unsat a_any a_anyOf a_oneOf) (basic_of_ne b_unsat b_any b_anyOf b_oneOf) v ha hb
  case case15 => -- `disjAllR`, no option
    intro f a _ v _; rfl
  case case16 => -- `disjAllR`, an option
    intro f a h t ih1 ih2 hd v ha
    have hd := Bool.and_eq_true_iff.mp hd
    exact Bool.or_eq_false_iff.mpr ⟨Bool.eq_false_iff.mpr (ih1 hd.1 v ha), ih2 hd.2 v ha⟩
  case case17 => -- `disjAllL`, no option
    intro f b _ v _; rfl
  case case18 => -- `disjAllL`, an option
    intro f h t b ih1 ih2 hd v hb
    have hd := Bool.and_eq_true_iff.mp hd
    exact Bool.or_eq_false_iff.mpr ⟨Bool.eq_false_iff.mpr fun hs => ih1 hd.1 v hs hb, ih2 hd.2 v hb⟩

theorem disjoint_sound {f : Nat} {a b : Sch} (h : disjoint f a b = true) (v : Json)
    (ha : sat ρ isMult a v = true) (hb : sat ρ isMult b v = true) : False :=
  (disjoint_sound_all).1 f a b h v ha hb

theorem disjAllR_sound {f : Nat} {a : Sch} {l : SchL} (h : disjAllR f a l = true) (v : Json)
    (ha : sat ρ isMult a v = true) : satAny ρ isMult l v = false :=
  (disjoint_sound_all).2.1 f a l h v ha

theorem pairwise_count (v : Json) : ∀ l : SchL, pairwiseDisj l = true →
    (satCount ρ isMult l v == 1) = satAny ρ isMult l v
  | .nil, _ => rfl
  | .cons h t, hp => by
      simp only [pairwiseDisj, Bool.and_eq_true] at hp
      have ih := pairwise_count v t hp.2
      simp only [satCount, satAny]
      cases hs : sat ρ isMult h v with
      | false => simpa using ih
      | true =>
        -- `h` accepts `v` and is disjoint from every later option
        have hnone := disjAllR_sound hp.1 v hs
        simp [satCount_of_satAny_false v t hnone]

end Sch
end LlgVerif
