/-
Languages of the fraction-digit helpers of `rx_float_range` (C08): the order on fractions `0.d`
given by their digit strings (lexicographic, trailing zeros implicit), and the digit strings that
`lexi_x_to_9`, `lexi_0_to_x`, `lexi_range` accept.
-/
import LlgVerif.Model.FloatRange
import LlgVerif.Proofs.IntRange
namespace LlgVerif
open Rx

/-- `0.d ≤ 0.x` -/
def fracLE : List Nat → List Nat → Prop
  | [], _ => True
  | a :: d, [] => a = 0 ∧ fracLE d []
  | a :: d, b :: x => a < b ∨ (a = b ∧ fracLE d x)

/-- `0.d < 0.x` -/
def fracLT : List Nat → List Nat → Prop
  | _, [] => False
  | [], b :: x => 0 < b ∨ fracLT [] x
  | a :: d, b :: x => a < b ∨ (a = b ∧ fracLT d x)

/-- unfolds to `Spells digB AllDig rx P` -/
def DigLang (rx : Rx) (P : List Nat → Prop) : Prop :=
  ∀ w, lang rx w ↔ ∃ d, AllDig d ∧ w = digB d ∧ P d

def AllZero (x : List Nat) : Prop := ∀ a ∈ x, a = 0

/-- no trailing zero (what `trim_end_matches('0')` establishes) -/
def NTZ : List Nat → Prop
  | [] => True
  | [a] => a ≠ 0
  | _ :: b :: x => NTZ (b :: x)

-- `0.ld ≤ 0.d`, strict when the flag is off.  `UpperB` is the same relation, named for the side the
-- bound stands on: everything is proved for `LowerB` and holds for `UpperB` by unfolding.
def LowerB (li : Bool) (ld d : List Nat) : Prop := if li then fracLE ld d else fracLT ld d
def UpperB (ri : Bool) (d rd : List Nat) : Prop := if ri then fracLE d rd else fracLT d rd

theorem allZero_nil : AllZero [] := List.forall_mem_nil _
theorem allZero_cons {a : Nat} {x : List Nat} : AllZero (a :: x) ↔ a = 0 ∧ AllZero x := List.forall_mem_cons
theorem allZero_append {u v : List Nat} : AllZero (u ++ v) ↔ AllZero u ∧ AllZero v := List.forall_mem_append

theorem fracLE_nil_right (x : List Nat) : fracLE x [] ↔ AllZero x := by
  induction x with
  | nil => simp [fracLE, AllZero]
  | cons a x ih => simp [fracLE, ih, AllZero]

theorem fracLT_nil_left (d : List Nat) : fracLT [] d ↔ ¬ AllZero d := by
  induction d with
  | nil => simp [fracLT, AllZero]
  | cons b d ih =>
    simp only [fracLT, ih, allZero_cons, Decidable.not_and_iff_not_or_not, Nat.pos_iff_ne_zero]

/-- the order is total, so the strict order need not be studied on its own -/
theorem fracLT_iff_not_le (d x : List Nat) : fracLT d x ↔ ¬ fracLE x d := by
  induction x generalizing d with
  | nil => cases d <;> simp [fracLT, fracLE]
  | cons b x ih =>
    cases d with
    | nil => simp only [fracLT, fracLE, ih, Decidable.not_and_iff_not_or_not, Nat.pos_iff_ne_zero]
    | cons a d =>
      simp only [fracLT, fracLE, ih]
      rcases Nat.lt_trichotomy a b with h | h | h
      · simp [h, Nat.lt_asymm h, Nat.ne_of_gt h]
      · simp [h]
      · simp [h, Nat.lt_asymm h, Nat.ne_of_gt h]

theorem lowerB_iff_not (i : Bool) (x y : List Nat) : LowerB i x y ↔ ¬ LowerB (!i) y x := by
  cases i
  · exact fracLT_iff_not_le x y
  · exact ((not_congr (fracLT_iff_not_le y x)).trans Classical.not_not).symm

theorem lowerB_true (x y : List Nat) : LowerB true x y ↔ fracLE x y := Iff.rfl
theorem lowerB_false (x y : List Nat) : LowerB false x y ↔ fracLT x y := Iff.rfl

theorem upperB_eq (i : Bool) (d x : List Nat) : UpperB i d x = LowerB i d x := rfl

theorem lowerB_cons (i : Bool) (a b : Nat) (x y : List Nat) :
    LowerB i (a :: x) (b :: y) ↔ a < b ∨ (a = b ∧ LowerB i x y) := by cases i <;> exact Iff.rfl

theorem lowerB_nil_right (i : Bool) (x : List Nat) : LowerB i x [] ↔ i = true ∧ AllZero x := by
  cases i
  · cases x <;> simp [LowerB, fracLT]
  · simpa [LowerB] using fracLE_nil_right x

theorem lowerB_nil_left (i : Bool) (y : List Nat) : LowerB i [] y ↔ i = true ∨ ¬ AllZero y := by
  cases i
  · simpa [LowerB] using fracLT_nil_left y
  · simp [LowerB, fracLE]

theorem lowerB_nil_between (li ri : Bool) {x y : List Nat} (h : AllZero x → ¬ AllZero y) :
    LowerB li x [] ∧ LowerB ri [] y ↔ li = true ∧ AllZero x := by
  rw [lowerB_nil_right, lowerB_nil_left]
  exact and_iff_left_of_imp fun hx => Or.inr (h hx.2)

/-! Trailing zeros do not change the value. -/

theorem lowerB_zeros_left (i : Bool) (z d : List Nat) (hz : AllZero z) :
    LowerB i z d ↔ i = true ∨ ¬ AllZero d := by
  induction z generalizing d with
  | nil => exact lowerB_nil_left i d
  | cons a z ih =>
    obtain ⟨rfl, hz'⟩ := allZero_cons.mp hz
    cases d with
    | nil =>
      rw [lowerB_nil_right]
      exact ⟨fun h => Or.inl h.1, fun h => ⟨h.resolve_right (not_not_intro allZero_nil), hz⟩⟩
    | cons b d =>
      rw [lowerB_cons, ih d hz', allZero_cons]
      by_cases hb : b = 0
      · simp [hb]
      · simp [hb, Nat.pos_of_ne_zero hb]

theorem lowerB_append_zeros_left (i : Bool) (x z d : List Nat) (hz : AllZero z) :
    LowerB i (x ++ z) d ↔ LowerB i x d := by
  induction x generalizing d with
  | nil => rw [List.nil_append, lowerB_zeros_left i z d hz, lowerB_nil_left]
  | cons a x ih =>
    cases d with
    | nil => simp only [lowerB_nil_right, allZero_append, hz, and_true]
    | cons b d => simp only [List.cons_append, lowerB_cons, ih d]

theorem lowerB_append_zeros_right (i : Bool) (d x z : List Nat) (hz : AllZero z) :
    LowerB i d (x ++ z) ↔ LowerB i d x := by
  rw [lowerB_iff_not i d (x ++ z), lowerB_iff_not i d x, lowerB_append_zeros_left _ x z d hz]

theorem lowerB_zeros_right (i : Bool) (d z : List Nat) (hz : AllZero z) :
    LowerB i d z ↔ i = true ∧ AllZero d := by
  have := lowerB_append_zeros_right i d [] z hz
  rwa [List.nil_append, lowerB_nil_right] at this

theorem lowerB_mono {x y : List Nat} (h : LowerB false x y) : LowerB true x y := by
  induction x generalizing y with
  | nil => exact (lowerB_nil_left true y).mpr (Or.inl rfl)
  | cons a x ih =>
    cases y with
    | nil => exact absurd ((lowerB_nil_right false _).mp h).1 (by simp)
    | cons b y => exact (lowerB_cons true a b x y).mpr (((lowerB_cons false a b x y).mp h).imp_right
        fun h => ⟨h.1, ih h.2⟩)

theorem lowerB_irrefl (x : List Nat) : ¬ LowerB false x x :=
  fun h => (lowerB_iff_not false x x).mp h (lowerB_mono h)

theorem ntz_not_allZero (x : List Nat) (hne : x ≠ []) (h : NTZ x) : ¬ AllZero x := by
  induction x with
  | nil => exact absurd rfl hne
  | cons a x ih =>
    cases x with
    | nil => intro hz; exact h (hz a List.mem_cons_self)
    | cons b x =>
      intro hz
      exact ih (by simp) h (fun c hc => hz c (List.mem_cons_of_mem _ hc))

theorem lowerB_nil_ntz (i : Bool) {x : List Nat} (hne : x ≠ []) (h : NTZ x) : LowerB i [] x :=
  (lowerB_nil_left i x).mpr (Or.inr (ntz_not_allZero x hne h))

theorem ntz_tail {a : Nat} {x : List Nat} (h : NTZ (a :: x)) : NTZ x := by
  cases x with
  | nil => trivial
  | cons b x => exact h

theorem trim_spec (x : List Nat) : ∃ z, AllZero z ∧ x = trimZeros x ++ z ∧ NTZ (trimZeros x) := by
  induction x with
  | nil => exact ⟨[], allZero_nil, rfl, trivial⟩
  | cons a x ih =>
    obtain ⟨z, hz, hx, hn⟩ := ih
    simp only [trimZeros]
    cases ht : trimZeros x with
    | nil =>
      rw [ht] at hx hn
      have hxz : x = z := by simpa using hx
      by_cases ha : a = 0 <;> simp only [ha, ↓reduceIte]
      · exact ⟨0 :: z, allZero_cons.mpr ⟨rfl, hz⟩, by rw [hxz]; rfl, trivial⟩
      · exact ⟨z, hz, by rw [hxz]; rfl, ha⟩
    | cons t ts =>
      rw [ht] at hx hn
      exact ⟨z, hz, by rw [hx]; rfl, hn⟩

theorem ntz_trim (x : List Nat) : NTZ (trimZeros x) := by
  obtain ⟨_, _, _, hn⟩ := trim_spec x; exact hn

theorem trim_isEmpty (x : List Nat) : (trimZeros x).isEmpty = true ↔ AllZero x := by
  obtain ⟨z, hz, hx, hn⟩ := trim_spec x
  rw [List.isEmpty_iff]
  constructor
  · intro h; rw [hx, h]; exact hz
  · intro h
    rw [hx] at h
    exact Classical.byContradiction fun hne => ntz_not_allZero _ hne hn (allZero_append.mp h).1

theorem allDig_trim (x : List Nat) (h : AllDig x) : AllDig (trimZeros x) := by
  obtain ⟨z, _, hx, _⟩ := trim_spec x
  intro a ha
  exact h a (by rw [hx]; exact List.mem_append_left _ ha)

theorem lowerB_trim_left (i : Bool) (x d : List Nat) : LowerB i (trimZeros x) d ↔ LowerB i x d := by
  obtain ⟨z, hz, hx, _⟩ := trim_spec x
  conv => rhs; rw [hx]
  exact (lowerB_append_zeros_left i _ z d hz).symm

theorem lowerB_trim_right (i : Bool) (d x : List Nat) : LowerB i d (trimZeros x) ↔ LowerB i d x := by
  obtain ⟨z, hz, hx, _⟩ := trim_spec x
  conv => rhs; rw [hx]
  exact (lowerB_append_zeros_right i d _ z hz).symm

theorem spells_digStar : Spells digB AllDig digStar (fun _ => True) :=
  (spells_star_cls 0 9 (Nat.le_refl 9)).congr fun _ hd =>
    iff_of_true (fun k hk => ⟨Nat.zero_le k, hd k hk⟩) trivial

theorem spells_zeroStar : Spells digB AllDig zeroStar AllZero :=
  (spells_star_cls 0 0 (Nat.zero_le 9)).congr fun _ _ =>
    forall₂_congr fun _ _ => ⟨fun h => Nat.le_zero.mp h.2, fun h => by omega⟩

theorem spells_opt {enc : List Nat → List B} {r : Rx} {Q : List Nat → Prop} (he : enc [] = [])
    (h : Spells enc AllDig r (fun d => d ≠ [] ∧ Q d)) (hnil : Q []) :
    Spells enc AllDig (optRx r) Q := by
  intro w
  rw [optRx, lang_alt, h w]
  constructor
  · rintro (hw | ⟨d, hd, hw, _, hq⟩)
    · exact ⟨[], allDig_nil, by rw [he]; exact hw, hnil⟩
    · exact ⟨d, hd, hw, hq⟩
  · rintro ⟨d, hd, hw, hq⟩
    by_cases hne : d = []
    · exact Or.inl (by rw [hw, hne, he]; rfl)
    · exact Or.inr ⟨d, hd, hw, hne, hq⟩

/-- `numeric.rs` makes the tail optional exactly when the empty tail is inside -/
theorem spells_opt_ite {enc : List Nat → List B} {r : Rx} {Q : List Nat → Prop} (he : enc [] = [])
    (h : Spells enc AllDig r (fun d => d ≠ [] ∧ Q d)) (c : Bool) (hc : c = true ↔ Q []) :
    Spells enc AllDig (if c then optRx r else r) Q := by
  split
  · rename_i hpos; exact spells_opt he h (hc.mp hpos)
  · rename_i hneg; exact h.congr fun d _ => and_iff_right_of_imp fun hq e => hneg (hc.mpr (e ▸ hq))

/-! Two-level comparison (first digit then the rest, or integer part then fraction) between two
bounds whose first levels are equal, resp. differ. -/

theorem lex_between_same {L U : Prop} (n k : Nat) :
    (n < k ∨ (n = k ∧ L)) ∧ (k < n ∨ (k = n ∧ U)) ↔ k = n ∧ L ∧ U := by
  constructor
  · rintro ⟨h1 | ⟨h1, a⟩, h2 | ⟨h2, b⟩⟩ <;> first | omega | exact ⟨h2, a, b⟩
  · rintro ⟨h, a, b⟩; exact ⟨Or.inr ⟨h.symm, a⟩, Or.inr ⟨h, b⟩⟩

theorem lex_between_diff {L U : Prop} {l r : Nat} (k : Nat) (hlt : l < r) :
    (l < k ∨ (l = k ∧ L)) ∧ (k < r ∨ (k = r ∧ U)) ↔
      (k = l ∧ L) ∨ (l < k ∧ k < r) ∨ (k = r ∧ U) := by
  constructor
  · rintro ⟨h1 | ⟨h1, a⟩, h2 | ⟨h2, b⟩⟩
    · exact Or.inr (Or.inl ⟨h1, h2⟩)
    · exact Or.inr (Or.inr ⟨h2, b⟩)
    · exact Or.inl ⟨h1.symm, a⟩
    · omega
  · rintro (⟨h, a⟩ | ⟨h1, h2⟩ | ⟨h, b⟩)
    · exact ⟨Or.inr ⟨h.symm, a⟩, Or.inl (by omega)⟩
    · exact ⟨Or.inl h1, Or.inl h2⟩
    · exact ⟨Or.inl (by omega), Or.inr ⟨h, b⟩⟩

theorem hd_same (a k : Nat) (P : List Nat → Prop) (d : List Nat) : Hd a a P (k :: d) ↔ k = a ∧ P d :=
  ⟨fun ⟨h1, h2, h⟩ => ⟨Nat.le_antisymm h2 h1, h⟩, fun ⟨h, hp⟩ => ⟨h ▸ Nat.le_refl _, h ▸ Nat.le_refl _, hp⟩⟩

/-! The first digit decides, or passes the question on; the first-digit classes are the `Hd` sets that
the patterns are put together from. -/

theorem hd_lower (i : Bool) (a : Nat) (x d : List Nat) (hd : AllDig d) :
    d ≠ [] ∧ LowerB i (a :: x) d ↔ Hd a a (LowerB i x) d ∨ (a < 9 ∧ Hd (a + 1) 9 (fun _ => True) d) := by
  cases d with
  | nil => simp [Hd]
  | cons k d =>
    have hk := (allDig_cons.mp hd).1
    simp only [hd_same]
    simp only [Hd, lowerB_cons, ne_eq, reduceCtorEq, not_false_eq_true, true_and, and_true]
    rw [or_comm]
    exact or_congr (and_congr_left' eq_comm) ⟨fun h => by omega, fun h => by omega⟩

theorem hd_upper (i : Bool) (a : Nat) (x d : List Nat) :
    d ≠ [] ∧ LowerB i d (a :: x) ↔ Hd a a (fun d => LowerB i d x) d ∨ (0 < a ∧ Hd 0 (a - 1) (fun _ => True) d) := by
  cases d with
  | nil => simp [Hd]
  | cons k d =>
    simp only [hd_same]
    simp only [Hd, lowerB_cons, ne_eq, reduceCtorEq, not_false_eq_true, true_and, and_true]
    rw [or_comm]
    exact or_congr Iff.rfl ⟨fun h => by omega, fun h => by omega⟩

theorem hd_between (li ri : Bool) {a b : Nat} (hab : a < b) (x y d : List Nat) :
    d ≠ [] ∧ LowerB li (a :: x) d ∧ LowerB ri d (b :: y) ↔
      Hd a a (LowerB li x) d ∨ (a + 1 < b ∧ Hd (a + 1) (b - 1) (fun _ => True) d) ∨
        Hd b b (fun d => LowerB ri d y) d := by
  cases d with
  | nil => simp [Hd]
  | cons k d =>
    simp only [hd_same]
    simp only [Hd, lowerB_cons, ne_eq, reduceCtorEq, not_false_eq_true, true_and, and_true,
      lex_between_diff k hab]
    exact or_congr_right (or_congr_left ⟨fun h => by omega, fun h => by omega⟩)

theorem hd_within (li ri : Bool) (a : Nat) (x y d : List Nat) :
    d ≠ [] ∧ LowerB li (a :: x) d ∧ LowerB ri d (a :: y) ↔ Hd a a (fun d => LowerB li x d ∧ LowerB ri d y) d := by
  cases d with
  | nil => simp [Hd]
  | cons k d =>
    simp only [hd_same, ne_eq, reduceCtorEq, not_false_eq_true, true_and, lowerB_cons, lex_between_same]

theorem not_allZero_split (d : List Nat) (hd : AllDig d) (h : ¬ AllZero d) :
    ∃ u v, AllDig u ∧ AllDig v ∧ Hd 1 9 (fun _ => True) v ∧ u ++ v = d := by
  induction d with
  | nil => exact absurd allZero_nil h
  | cons a d ih =>
    obtain ⟨ha9, hd'⟩ := allDig_cons.mp hd
    by_cases ha : a = 0
    · obtain ⟨u, v, hu, hv, hh, rfl⟩ := ih hd' fun hz => h (allZero_cons.mpr ⟨ha, hz⟩)
      exact ⟨a :: u, v, allDig_cons.mpr ⟨ha9, hu⟩, hv, hh, rfl⟩
    · exact ⟨[], a :: d, allDig_nil, hd, ⟨by omega, ha9, trivial⟩, rfl⟩

theorem lexiXTo9_lang (x : List Nat) (incl : Bool) (hx : AllDig x) (hn : NTZ x) :
    Spells digB AllDig (lexiXTo9 x incl).rx (LowerB incl x) := by
  fun_induction lexiXTo9 x incl
  case case1 => exact spells_digStar.congr fun d _ => by simp [lowerB_nil_left]
  case case2 =>
    -- `[0-9]*[1-9][0-9]*`: some digit is not `0`
    refine (spells_digStar.seq (spells_hd 1 9 (Nat.le_refl 9) spells_digStar)).image
      (fun x => x.1 ++ x.2) (fun x hx hp => ⟨allDig_append.mpr hx, by simp [digB], ?_⟩)
      fun d hd hq => ?_
    · obtain ⟨u, _ | ⟨k, v⟩⟩ := x
      · exact hp.2.elim
      · rw [lowerB_nil_left]
        exact Or.inr fun hz => by have := hz k (by simp); have := hp.2.1; omega
    · obtain ⟨u, v, hu, hv, hh, rfl⟩ := not_allZero_split d hd (by simpa [lowerB_nil_left] using hq)
      exact ⟨(u, v), ⟨hu, hv⟩, ⟨trivial, hh⟩, rfl⟩
  case case3 a =>
    refine spells_hd_iff a 9 (Nat.le_refl 9) spells_digStar ?_ fun k t hk => ?_
    · simpa [lowerB_nil_right, allZero_cons, allZero_nil, NTZ] using hn
    · simp only [lowerB_cons, lowerB_nil_left, true_or, and_true, hk]
      omega
  case case4 a rest incl hne r first parts ih =>
    have ⟨ha9, hrest⟩ := allDig_cons.mp hx
    have h := Spells.alts_cons (spells_hd a a ha9 (ih hrest (ntz_tail hn))) (Spells.alts_ite (a < 9) fun _ =>
      (Spells.alts_one (spells_hd (a + 1) 9 (Nat.le_refl 9) spells_digStar)))
    simp only [parts, first, List.map_cons, apply_ite (List.map _), List.map_nil]
    refine h.congr fun d hd => ?_
    rw [← hd_lower incl a rest d hd]
    -- the empty string is outside: `a :: rest` has no trailing zero, so it is not all zeros
    exact and_iff_right_of_imp fun h e =>
      ntz_not_allZero _ (List.cons_ne_nil _ _) hn ((lowerB_nil_right incl _).mp (e ▸ h)).2

theorem lexi0ToX_lang {x : List Nat} {incl : Bool} {p : PR} (h : lexi0ToX x incl = .ok p)
    (hx : AllDig x) (hn : NTZ x) :
    Spells digB AllDig p.rx (fun d => d ≠ [] ∧ LowerB incl d x) := by
  fun_induction lexi0ToX x incl generalizing p
  case case1 =>
    injection h with h; subst h
    exact spells_hd_iff 0 0 (Nat.zero_le 9) spells_zeroStar (by simp) fun k t _ => by
      simp [lowerB_nil_right, allZero_cons]
  case case4 a ha =>
    injection h with h; subst h
    have ha9 := (allDig_cons.mp hx).1
    exact spells_hd_iff 0 (a - 1) (by omega) spells_digStar (by simp) fun k t _ => by
      simp [lowerB_cons, lowerB_nil_right]; omega
  case case6 a rest incl hne first f hf parts ih =>
    injection h with h; subst h
    have ⟨ha9, hrest⟩ := allDig_cons.mp hx
    -- the first part: the digit `a`, then something at most / below `rest`
    have hfirst : Spells digB AllDig f.rx (Hd a a (fun d => LowerB incl d rest)) := by
      simp only [first] at hf
      split at hf
      · rename_i hemp
        injection hf with hf; subst hf
        obtain rfl := List.isEmpty_iff.mp hemp
        obtain rfl : incl = true := by simpa using hne
        exact spells_hd a a ha9 (spells_zeroStar.congr fun d _ => by simp [lowerB_nil_right])
      · rename_i hemp
        split at hf
        · rename_i r hr0
          injection hf with hf; subst hf
          exact spells_hd a a ha9 (spells_opt rfl (ih hr0 hrest (ntz_tail hn))
            (lowerB_nil_ntz incl (fun h => hemp (List.isEmpty_iff.mpr h)) (ntz_tail hn)))
        · cases hf
    have h := hfirst.alts_cons (Spells.alts_ite (a > 0) fun _ =>
      (Spells.alts_one (spells_hd 0 (a - 1) (by omega) spells_digStar)))
    simp only [parts, List.map_cons, apply_ite (List.map _), List.map_nil]
    exact h.congr fun d _ => (hd_upper incl a rest d).symm
  all_goals cases h

theorem lexi0ToX_total (x : List Nat) (incl : Bool) (hn : NTZ x) (hne : incl = true ∨ x ≠ []) :
    ∃ p, lexi0ToX x incl = .ok p := by
  fun_induction lexi0ToX x incl
  -- the branches that return an error
  case case2 => rcases hne with h | h <;> simp at h
  case case3 => exact absurd rfl hn
  case case5 a rest incl hne' first e hf ih =>
    -- the recursion on the rest fails
    exfalso
    simp only [first] at hf
    split at hf
    · cases hf
    · rename_i hemp
      obtain ⟨r, hr0⟩ := ih (ntz_tail hn) (Or.inr fun h => hemp (List.isEmpty_iff.mpr h))
      rw [hr0] at hf
      cases hf
  all_goals exact ⟨_, rfl⟩

theorem allZero_eq_of_length {a b : List Nat} (ha : AllZero a) (hb : AllZero b) (hl : a.length = b.length) :
    a = b := by
  induction a generalizing b with
  | nil => exact (List.length_eq_zero_iff.mp hl.symm).symm
  | cons x a ih =>
    cases b with
    | nil => simp at hl
    | cons y b =>
      obtain ⟨hx, ha'⟩ := allZero_cons.mp ha
      obtain ⟨hy, hb'⟩ := allZero_cons.mp hb
      rw [hx, hy, ih ha' hb' (by simpa using hl)]

theorem lexiRange_lang {ld rd : List Nat} {li ri : Bool} {p : PR} (h : lexiRange ld rd li ri = .ok p)
    (hne : ld ≠ rd) (hl : AllDig ld) (hr : AllDig rd) :
    Spells digB AllDig p.rx (fun d => d ≠ [] ∧ LowerB li ld d ∧ LowerB ri d rd) := by
  fun_induction lexiRange ld rd li ri generalizing p
  case case2 => exact absurd rfl hne
  case case5 li ri lt r0 rt f hf hopt hlen hneq ih | case6 li ri lt r0 rt f hf hopt hlen hneq ih =>
    injection h with h; subst h
    have hne' : lt ≠ rt := fun e => hne (by rw [e])
    have ⟨hr0, hlt⟩ := allDig_cons.mp hl
    -- stopping after the common digit is inside the bounds exactly when the model's test holds
    have hX := spells_opt_ite rfl (ih hf hne' hlt (allDig_cons.mp hr).2) (li && (trimZeros lt).isEmpty) (by
      rw [Bool.and_eq_true, trim_isEmpty, lowerB_nil_between li ri fun hz hzr =>
        hne' (allZero_eq_of_length hz hzr (by simpa using hlen))])
    simp only [hopt, ↓reduceIte] at hX
    exact (spells_hd r0 r0 hr0 hX).congr fun d _ => (hd_within li ri r0 lt rt d).symm
  case case9 li ri l0 lt r0 rt hne0 hge lo p1 mid rdRest hi0 hi hhi parts hlen hneq =>
    injection h with h; subst h
    have ⟨hl0, hlt⟩ := allDig_cons.mp hl
    have ⟨hr0, hrt⟩ := allDig_cons.mp hr
    -- first part: the digit l0, then something at or above the rest of ld
    have h1 : Spells digB AllDig p1.rx (Hd l0 l0 (LowerB li lt)) :=
      spells_hd l0 l0 hl0 ((lexiXTo9_lang (trimZeros lt) li (allDig_trim lt hlt) (ntz_trim lt)).congr
        fun d _ => lowerB_trim_left li lt d)
    have h2 : Spells digB AllDig (altsRx (mid.map (·.rx))) (fun d => l0 + 1 < r0 ∧ Hd (l0 + 1) (r0 - 1) (fun _ => True) d) := by
      simp only [mid, dite_eq_ite, apply_ite (List.map _), List.map_cons, List.map_nil]
      exact Spells.alts_ite (l0 + 1 < r0) fun _ => (Spells.alts_one (spells_hd (l0 + 1) (r0 - 1) (by omega) spells_digStar))
    -- last part: the digit r0, then something at or below the rest of rd
    have h3 : Spells digB AllDig (altsRx (hi.map (·.rx))) (Hd r0 r0 (fun d => LowerB ri d rt)) := by
      simp only [hi0] at hhi
      split at hhi
      · rename_i hnonempty
        have hre : trimZeros rt ≠ [] := by
          intro e; simp [rdRest, e] at hnonempty
        split at hhi
        · rename_i r hr0'
          injection hhi with hhi; subst hhi
          exact Spells.alts_one (spells_hd r0 r0 hr0 ((spells_opt rfl
            (lexi0ToX_lang hr0' (allDig_trim rt hrt) (ntz_trim rt))
            (lowerB_nil_ntz ri hre (ntz_trim rt))).congr fun d _ => lowerB_trim_right ri d rt))
        · cases hhi
      · rename_i hempty
        have hz : AllZero rt := (trim_isEmpty rt).mp (by simpa [rdRest] using hempty)
        split at hhi
        · rename_i hri
          injection hhi with hhi; subst hhi
          exact Spells.alts_one (spells_hd r0 r0 hr0 (spells_zeroStar.congr fun d _ => by
            simp only [lowerB_zeros_right ri _ rt hz, eq_true hri, true_and]))
        · rename_i hri
          injection hhi with hhi; subst hhi
          exact Spells.alts_nil.congr fun d _ => by
            cases d <;> simp only [Hd, lowerB_zeros_right ri _ rt hz, eq_false hri, false_and, and_false]
    simp only [parts, List.map_cons, List.map_append]
    exact (h1.alts_cons (h2.alts_append h3)).congr fun d _ => (hd_between li ri (by omega) lt rt d).symm
  all_goals cases h

/-- `0.d × 10^n` as a natural number, for `n ≥ d.length` -/
def fracScaled : List Nat → Nat → Nat
  | [], _ => 0
  | _ :: _, 0 => 0
  | a :: d, n + 1 => a * 10 ^ n + fracScaled d n

theorem fracScaled_lt (d : List Nat) (n : Nat) (hd : AllDig d) (hn : d.length ≤ n) :
    fracScaled d n < 10 ^ n := by
  induction d generalizing n with
  | nil => exact Nat.pow_pos (by omega)
  | cons a d ih =>
    cases n with
    | zero => simp at hn
    | succ n =>
      have := ih n (allDig_cons.mp hd).2 (by simpa using hn)
      have : a * 10 ^ n ≤ 9 * 10 ^ n := Nat.mul_le_mul_right _ (allDig_cons.mp hd).1
      simp only [fracScaled, Nat.pow_succ]
      omega

theorem fracScaled_zero_iff (d : List Nat) (n : Nat) (hn : d.length ≤ n) :
    fracScaled d n = 0 ↔ AllZero d := by
  induction d generalizing n with
  | nil => exact iff_of_true rfl allZero_nil
  | cons a d ih =>
    cases n with
    | zero => simp at hn
    | succ n =>
      have hp : 10 ^ n ≠ 0 := Nat.ne_of_gt (Nat.pow_pos (by omega))
      rw [fracScaled, Nat.add_eq_zero_iff, ih n (by simpa using hn), allZero_cons, Nat.mul_eq_zero,
        or_iff_left hp]

theorem lex_le_iff {p a b s t : Nat} (hs : s < p) (ht : t < p) :
    a * p + s ≤ b * p + t ↔ a < b ∨ (a = b ∧ s ≤ t) := by
  rcases Nat.lt_trichotomy a b with h | rfl | h
  · have := Nat.mul_le_mul_right p (show a + 1 ≤ b from h)
    rw [Nat.add_mul] at this
    exact iff_of_true (by omega) (Or.inl h)
  · exact ⟨fun h => Or.inr ⟨rfl, by omega⟩, fun h => by omega⟩
  · have := Nat.mul_le_mul_right p (show b + 1 ≤ a from h)
    rw [Nat.add_mul] at this
    exact iff_of_false (by omega) (by omega)

/-- the order `fracLE` is the numeric order of the fractions `0.d` -/
theorem fracLE_iff_scaled (d x : List Nat) (n : Nat) (hd : AllDig d) (hx : AllDig x)
    (hdn : d.length ≤ n) (hxn : x.length ≤ n) :
    fracLE d x ↔ fracScaled d n ≤ fracScaled x n := by
  induction d generalizing x n with
  | nil => simp [fracLE, fracScaled]
  | cons a d ih =>
    cases n with
    | zero => simp at hdn
    | succ n =>
      cases x with
      | nil => rw [fracLE_nil_right, ← fracScaled_zero_iff (a :: d) (n + 1) hdn]; exact Nat.le_zero.symm
      | cons b x =>
        have hdn' : d.length ≤ n := by simpa using hdn
        have hxn' : x.length ≤ n := by simpa using hxn
        rw [fracLE, fracScaled, fracScaled, ih x n (allDig_cons.mp hd).2 (allDig_cons.mp hx).2 hdn' hxn',
          lex_le_iff (fracScaled_lt d n (allDig_cons.mp hd).2 hdn')
            (fracScaled_lt x n (allDig_cons.mp hx).2 hxn')]

theorem fracLT_iff_scaled (d x : List Nat) (n : Nat) (hd : AllDig d) (hx : AllDig x)
    (hdn : d.length ≤ n) (hxn : x.length ≤ n) :
    fracLT d x ↔ fracScaled d n < fracScaled x n := by
  rw [fracLT_iff_not_le, fracLE_iff_scaled x d n hx hd hxn hdn, Nat.not_le]

end LlgVerif
