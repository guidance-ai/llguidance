/-
`rx_int_range` on signed bounds (models `intBoth`, `intGe`, `intLe`, `intAny`): a pattern for natural
numbers is read as one for the non-negative integers, or behind `-` as one for the negative integers.
-/
import LlgVerif.Proofs.IntRange
namespace LlgVerif
open Rx

/-- canonical decimal spelling of an integer -/
def decI (z : Int) : List B := if z < 0 then 45 :: dec (-z).toNat else dec z.toNat

theorem decI_natCast (n : Nat) : decI (n : Int) = dec n := by
  simp only [decI, show ¬ (n : Int) < 0 by omega, if_false, Int.toNat_natCast]

theorem decI_neg_natCast (n : Nat) (hn : 1 ≤ n) : decI (-(n : Int)) = 45 :: dec n := by
  simp only [decI, show -(n : Int) < 0 by omega, if_true, Int.neg_neg, Int.toNat_natCast]

/-- spellings of integers; `none` stands for `-0`, which is no canonical spelling but which the
patterns with a sign branch over zero admit -/
def decZ : Option Int → List B
  | some z => decI z
  | none => 45 :: dec 0

theorem Spells.toInt {rx : Rx} {P : Nat → Prop} (h : Spells dec (fun _ => True) rx P) :
    Spells decZ (fun _ => True) rx (fun | some z => 0 ≤ z ∧ P z.toNat | none => False) := by
  intro w
  rw [h w]
  constructor
  · rintro ⟨n, _, hw, hn⟩
    exact ⟨some n, trivial, by rw [hw, decZ, decI_natCast], by omega, hn⟩
  · rintro ⟨_ | z, _, hw, hz⟩
    · exact hz.elim
    · exact ⟨z.toNat, trivial, by rw [hw, decZ, ← decI_natCast, Int.toNat_of_nonneg hz.1], hz.2⟩

theorem Spells.negInt {rx : Rx} {N : Nat → Prop} (h : Spells dec (fun _ => True) rx N) :
    Spells decZ (fun _ => True) (cat minus rx)
      (fun | some z => z < 0 ∧ N (-z).toNat | none => N 0) := by
  intro w
  rw [h.neg w]
  constructor
  · rintro ⟨n, _, hw, hn⟩
    by_cases h0 : n = 0
    · exact ⟨none, trivial, by rw [hw, h0]; rfl, h0 ▸ hn⟩
    · refine ⟨some (-(n : Int)), trivial, by rw [hw, decZ, decI_neg_natCast n (by omega)], by omega, ?_⟩
      rwa [Int.neg_neg, Int.toNat_natCast]
  · rintro ⟨_ | z, _, hw, hz⟩
    · exact ⟨0, trivial, hw, hz⟩
    · have hz1 := hz.1
      refine ⟨(-z).toNat, trivial, ?_, hz.2⟩
      show w = 45 :: dec (-z).toNat
      rw [hw, decZ, ← decI_neg_natCast _ (by omega), Int.toNat_of_nonneg (by omega), Int.neg_neg]

theorem Spells.int_iff {rx : Rx} {S : Option Int → Prop} (h : Spells decZ (fun _ => True) rx S)
    (w : List B) : lang rx w ↔ (∃ z : Int, S (some z) ∧ w = decI z) ∨ (S none ∧ w = 45 :: dec 0) := by
  rw [h w]
  constructor
  · rintro ⟨_ | z, _, hw, hs⟩
    · exact Or.inr ⟨hs, hw⟩
    · exact Or.inl ⟨z, hs, hw⟩
  · rintro (⟨z, hs, hw⟩ | ⟨hs, hw⟩)
    · exact ⟨some z, trivial, hw, hs⟩
    · exact ⟨none, trivial, hw, hs⟩

theorem Spells.congrZ {rx : Rx} {P Q : Option Int → Prop} (h : Spells decZ (fun _ => True) rx P)
    (hs : ∀ z, P (some z) ↔ Q (some z)) (hn : P none ↔ Q none) : Spells decZ (fun _ => True) rx Q :=
  h.congr fun o _ => by cases o; exact hn; exact hs _

/-! The two readings on a range of magnitudes, with the `toNat` arithmetic done once. -/

theorem Spells.negRange {rx : Rx} {a b : Nat} (h : Spells dec (fun _ => True) rx (fun n => a ≤ n ∧ n ≤ b)) :
    Spells decZ (fun _ => True) (cat minus rx)
      (fun | some z => -(b : Int) ≤ z ∧ z ≤ -(a : Int) ∧ z < 0 | none => a = 0) :=
  h.negInt.congrZ (fun z => by dsimp only; omega) (by dsimp only; omega)

theorem Spells.posRange {rx : Rx} {a b : Nat} (h : Spells dec (fun _ => True) rx (fun n => a ≤ n ∧ n ≤ b)) :
    Spells decZ (fun _ => True) rx (fun | some z => (a : Int) ≤ z ∧ z ≤ b | none => False) :=
  h.toInt.congrZ (fun z => by dsimp only; omega) Iff.rfl

theorem intBoth_correct {l r : Int} {p : PR} (h : intBoth l r = .ok p) :
    Spells decZ (fun _ => True) p.rx (fun | some z => l ≤ z ∧ z ≤ r | none => l < 0 ∧ 0 ≤ r) := by
  revert h
  fun_cases intBoth l r <;> intro h
  case case4 hle hl hm hr a ha =>
    -- `l ≤ r < 0`: the magnitudes `[-r, -l]` behind `-`
    cases h
    exact (nnRange_correct ha).negRange.congrZ (fun z => by dsimp only; omega) (by dsimp only; omega)
  case case5 hle hl hm hr a b hb ha =>
    -- `l < 0 ≤ r`: the magnitudes `[0, -l]` behind `-`, or `[0, r]`
    cases h
    exact ((nnRange_correct ha).negRange.union (nnRange_correct hb).posRange).congrZ
      (fun z => by dsimp only; omega) (iff_of_true (Or.inl rfl) ⟨by omega, by omega⟩)
  case case7 hle hl =>
    -- `0 ≤ l`
    exact (nnRange_correct h).posRange.congrZ (fun z => by dsimp only; omega) (iff_of_false id (by omega))
  all_goals cases h

theorem intGe_correct {l : Int} {p : PR} (h : intGe l = .ok p) :
    Spells decZ (fun _ => True) p.rx (fun | some z => l ≤ z | none => False) := by
  revert h
  fun_cases intGe l <;> intro h
  case case1 hl a b hb ha =>
    -- `l < 0`: `[l, -1]`, or any natural number
    cases h
    exact ((intBoth_correct ha).alts_cons (Spells.alts_one (nnGe_correct hb).toInt)).congrZ
      (fun z => by dsimp only; omega) (iff_of_false (fun h => h.elim (fun h => by omega) id) id)
  case case2 => cases h
  case case3 hl =>
    exact (nnGe_correct h).toInt.congrZ (fun z => by dsimp only; omega) Iff.rfl

/-- `-0` is not admitted (the negative part starts at `-1`). -/
theorem intLe_correct {r : Int} {p : PR} (h : intLe r = .ok p) :
    Spells decZ (fun _ => True) p.rx (fun | some z => z ≤ r | none => False) := by
  revert h
  fun_cases intLe r <;> intro h
  case case1 hr a b hb ha =>
    -- `r ≥ 0`: `[0, r]`, or `-` and a number from 1 on
    cases h
    exact ((intBoth_correct ha).alts_cons (Spells.alts_one (nnGe_correct hb).negInt)).congrZ
      (fun z => by dsimp only; omega) (iff_of_false (fun h => h.elim (fun h => by omega) fun h => by omega) id)
  case case5 hr hm b hb =>
    cases h
    exact (nnGe_correct hb).negInt.congrZ (fun z => by dsimp only; omega) (iff_of_false (fun h => by omega) id)
  all_goals cases h

/-- no bounds: `-?(0|[1-9][0-9]*)` is every canonical spelling, and `-0` -/
theorem intAny_correct : Spells decZ (fun _ => True) intAny.rx (fun _ => True) := by
  have hnat : Spells dec (fun _ => True) (alt (litRx (dec 0)) (bigRx 0)) (fun _ => True) :=
    ((spells_litDec 0).union (lang_bigRx 0)).congr fun n _ => by simp only [Nat.pow_zero, iff_true]; omega
  intro w
  rw [show intAny.rx = cat (alt minus eps) (alt (litRx (dec 0)) (bigRx 0)) from rfl, lang_alt_cat,
    lang_cat_eps_left]
  refine (hnat.negInt.union hnat.toInt).congr (fun o _ => iff_of_true ?_ trivial) w
  cases o with
  | none => exact Or.inl trivial
  | some z => exact (Int.lt_or_le z 0).imp (fun h => ⟨h, trivial⟩) fun h => ⟨h, trivial⟩

end LlgVerif
