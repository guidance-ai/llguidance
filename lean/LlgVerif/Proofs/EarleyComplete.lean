/-
Completeness of the Earley rows model M4: rows that pass the certificate check `rowsClosed` hold
every `Want` item (`closed_complete`), and `Want` is complete for derivations (`advance` /
`want_of_seq`); an accepted input is scanned lexeme by lexeme by wanted items (`accepted_scans`).
-/
import LlgVerif.Proofs.Earley
namespace LlgVerif
namespace Ey

theorem subsetB_iff {a b : List Item} : subsetB a b = true ↔ ∀ x ∈ a, x ∈ b := by
  simp [subsetB]

/-- what `rowsClosed` checks (`closed_of_check`) -/
structure Closed (g : CG) (inp : List (List Nat)) (rows : List (List Item)) : Prop where
  start : ∀ r ∈ (g.sym g.start).rules, (r, 0) ∈ rows.getD 0 []
  exp : ∀ j, j < rows.length → ∀ it ∈ rows.getD j [], ∀ x ∈ expand g rows j it, x ∈ rows.getD j []
  scan : ∀ j, j + 1 < rows.length → ∀ x ∈ scanned g (rows.getD j []) (inp.getD j []), x ∈ rows.getD (j + 1) []

theorem closed_of_check (g : CG) (inp : List (List Nat)) (rows : List (List Item))
    (h : rowsClosed g inp rows = true) : Closed g inp rows := by
  simp only [rowsClosed, Bool.and_eq_true, List.all_eq_true, List.mem_range, subsetB_iff,
    Bool.or_eq_true, Bool.not_eq_eq_eq_not, Bool.not_true, decide_eq_false_iff_not] at h
  obtain ⟨h0, h1⟩ := h
  exact ⟨fun r hr => h0 _ (List.mem_map.mpr ⟨r, hr, rfl⟩), fun j hj => (h1 j hj).1,
    fun j hj => (h1 j (by omega)).2.resolve_left (fun h => h hj)⟩

theorem closed_complete {g : CG} {inp : List (List Nat)} {rows : List (List Item)}
    (hc : Closed g inp rows) {j : Nat} {it : Item} (hw : Want g inp j it) (hj : j < rows.length) :
    it ∈ rows.getD j [] := by
  induction hw with
  | start hr => exact hc.start _ hr
  | predict _ hne hr ih =>
    exact hc.exp _ hj _ (ih hj) _ ((mem_expand_ne hne).mpr (.inl ⟨_, hr, rfl⟩))
  | nullable _ hne hn ih =>
    exact hc.exp _ hj _ (ih hj) _ ((mem_expand_ne hne).mpr (.inr ⟨hn, rfl⟩))
  | scan _ hl hmem _ ih =>
    exact hc.scan _ hj _ (mem_scanned.mpr ⟨_, _, _, ih (by omega), hl, hmem, rfl⟩)
  | complete _ hdot hk _ hq ih1 ih2 =>
    exact hc.exp _ hj _ (ih1 hj) _ ((mem_expand_complete hdot).mpr ⟨hk, _, _, ih2 (by omega), hq, rfl⟩)

/-- what `CG.nullableClosed` checks (`nullClosed_of_check`) -/
structure NullClosed (g : CG) : Prop where
  closed : ∀ s, (g.sym s).nullable = false → ∀ r ∈ (g.sym s).rules,
    ∃ x ∈ g.rhsFrom g.rhs.size r, (g.sym x).nullable = false

theorem nullClosed_of_check (g : CG) (h : g.nullableClosed = true) : NullClosed g := by
  refine ⟨fun s hs r hr => ?_⟩
  have := List.all_eq_true.mp h s (List.mem_range.mpr (sym_lt_of_rule hr))
  simp only [hs, Bool.false_or, List.all_eq_true, List.any_eq_true, Bool.not_eq_eq_eq_not,
    Bool.not_true] at this
  exact this r hr

/- An empty span derived by a rule of an unflagged symbol would contradict `NullClosed`: the rule has
   a symbol that is not flagged, and that symbol derives an empty span too. -/
mutual
theorem der_null {g : CG} (hn : NullClosed g) {inp : List (List Nat)} {s i j : Nat} :
    Der g inp s i j → i = j → (g.sym s).nullable = true
  | .lex _ _ _ => fun h => by omega
  | .null h => fun _ => h
  | @Der.rule _ _ _ r p _ _ hr hs hd => fun hij => by
      cases hnull : (g.sym s).nullable with
      | true => rfl
      | false =>
        obtain ⟨x, hx, hxn⟩ := hn.closed s hnull r hr
        -- `x` sits at a position before `p`, the first 0 from `r` on
        obtain ⟨q, h1, rfl, hnz⟩ := mem_rhsFrom hx
        have h2 : q < p := Nat.lt_of_not_le fun hpq => hnz p (seq_pos_le hs) hpq hd
        rw [seq_null hn hs hij q h1 h2] at hxn
        cases hxn
theorem seq_null {g : CG} (hn : NullClosed g) {inp : List (List Nat)} {r p i j : Nat} :
    Seq g inp r p i j → i = j → ∀ q, r ≤ q → q < p → (g.sym (g.atDot q)).nullable = true
  | .nil => fun _ q h1 h2 => by omega
  | @Seq.snoc _ _ _ p' _ k _ hs _ hd => fun hij q h1 h2 => by
      have hk1 := seq_le hs
      have hk2 := der_le hd
      by_cases h : q = p'
      · rw [h]; exact der_null hn hd (by omega)
      · exact seq_null hn hs (by omega) q h1 (by omega)
end

mutual
/-- an item waiting for `s` is advanced over every span `s` derives (completeness of `Want`; nothing to do
with the model function `Lx.advance`) -/
theorem advance {g : CG} (hw : WF g) (hn : NullClosed g) {inp : List (List Nat)} {s k j : Nat} :
    Der g inp s k j → ∀ q i, Want g inp k (q, i) → g.atDot q = s → s ≠ 0 → Want g inp j (q + 1, i)
  | .lex hl hm hlt => fun q i hq hs _ => Want.scan hq (hs ▸ hl) hm hlt
  | .null hnl => fun q i hq hs hne => Want.nullable hq (hs ▸ hne) (hs ▸ hnl)
  | @Der.rule _ _ _ r p _ _ hr hsq hd => fun q i hq hs hne => by
      subst hs
      have hend : Want g inp j (p, k) := want_of_seq hw hn hsq k (Want.predict hq hne hr)
      rcases Nat.lt_or_ge k j with hlt | hge
      · exact Want.complete hend hd hlt hq (by rw [seq_lhs hw hsq, hw.lhs_of_rule hr])
      · -- the completion the code skips: the span is empty, so the nullable advance covers it
        obtain rfl : k = j := Nat.le_antisymm (seq_le hsq) hge
        exact Want.nullable hq hne (der_null hn (Der.rule hr hsq hd) rfl)
theorem want_of_seq {g : CG} (hw : WF g) (hn : NullClosed g) {inp : List (List Nat)} {r p k j : Nat} :
    Seq g inp r p k j → ∀ i, Want g inp k (r, i) → Want g inp j (p, i)
  | .nil => fun _ h => h
  | .snoc hs hne hd => fun i h => advance hw hn hd _ i (want_of_seq hw hn hs i h) rfl hne
end

theorem accepting_complete (g : CG) (hw : WF g) (hn : NullClosed g) (lexs : List (List Nat))
    (rows : List (List Item)) (hc : Closed g lexs rows) (hlen : rows.length = lexs.length + 1)
    (h : Accepts g lexs) : accepting g rows = true := by
  obtain ⟨r, hr, p, hs, hd⟩ := h
  have hm := closed_complete hc
    (want_of_seq hw hn hs 0 (Want.start hr)) (by omega)
  exact accepting_iff.mpr ⟨p, by rwa [hlen], hd, by rw [seq_lhs hw hs, hw.lhs_of_rule hr]⟩

/-! The converse of the valid-prefix property (`want_viable`): at every position before the end of an
accepted input some wanted item is about to scan a lexeme of the set found there. -/

def Scans (g : CG) (inp : List (List Nat)) (n : Nat) : Prop :=
  ∃ p i l, Want g inp n (p, i) ∧ (g.sym (g.atDot p)).lexeme = some l ∧ l ∈ inp.getD n []

/-- only `Want.scan` moves to the next row -/
theorem want_scans {g : CG} {inp : List (List Nat)} {n j : Nat} {it : Item} (h : Want g inp j it) :
    n < j → Scans g inp n := by
  induction h with
  | start _ => intro h; omega
  | @scan j p i l hq hl hm _ ih =>
    intro h
    by_cases e : n = j
    · exact e ▸ ⟨p, i, l, hq, hl, hm⟩
    · exact ih (by omega)
  | predict _ _ _ ih => exact ih
  | nullable _ _ _ ih => exact ih
  | complete _ _ _ _ _ ih => exact ih

theorem der_scans {g : CG} (hw : WF g) (hn : NullClosed g) {inp : List (List Nat)} (n : Nat) {s k j : Nat} :
    Der g inp s k j → ∀ q i, Want g inp k (q, i) → g.atDot q = s → s ≠ 0 → k ≤ n → n < j → Scans g inp n :=
  fun hd q i hq hs hne _ => want_scans (advance hw hn hd q i hq hs hne)

theorem accepted_scans (g : CG) (hw : WF g) (hn : NullClosed g) (lexs : List (List Nat)) (X : List Nat)
    (v : List (List Nat)) (h : Accepts g (lexs ++ X :: v)) :
    ∃ p i l, Want g lexs lexs.length (p, i) ∧ (g.sym (g.atDot p)).lexeme = some l ∧ l ∈ X := by
  obtain ⟨r, hr, p, hs, _⟩ := h
  obtain ⟨p', i, l, hwant, hl, hm⟩ :=
    want_scans (n := lexs.length) (want_of_seq hw hn hs 0 (Want.start hr)) (by simp)
  refine ⟨p', i, l, want_local hwant (fun k hk => (getD_append_left _ _ _ hk).symm) (Nat.le_refl _), hl, ?_⟩
  simpa [List.getD_eq_getElem?_getD] using hm

end Ey
end LlgVerif
