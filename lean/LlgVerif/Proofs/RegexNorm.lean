/- S2: the normalising constructors preserve the language; `derivN` is a derivative. -/
import LlgVerif.Proofs.RegexLang
import LlgVerif.Proofs.ListFacts
namespace LlgVerif
namespace Rx

theorem lang_altOfList (l : List Rx) (w : List B) : lang (altOfList l) w ↔ ∃ r ∈ l, lang r w := by
  induction l with
  | nil => simp [altOfList, lang]
  | cons x xs ih =>
    cases xs with
    | nil => simp [altOfList]
    | cons y ys =>
      simp only [altOfList, lang, List.mem_cons, exists_eq_or_imp] at ih ⊢
      rw [ih]

theorem mem_insertDedup (x y : Rx) (l : List Rx) : y ∈ insertDedup x l ↔ y = x ∨ y ∈ l := by
  induction l with
  | nil => simp [insertDedup]
  | cons z zs ih =>
    simp only [insertDedup]
    split
    · rename_i h; subst h; simp
    · split
      · simp
      · simp only [List.mem_cons, ih]; exact or_left_comm

theorem lang_flattenAlt (a : Rx) (w : List B) : (∃ r ∈ flattenAlt a, lang r w) ↔ lang a w := by
  induction a with
  | alt a b iha ihb => simp only [flattenAlt, List.mem_append, or_and_right, exists_or, iha, ihb, lang]
  | _ => simp [flattenAlt]

theorem lang_mkAlt (a b : Rx) (w : List B) : lang (mkAlt a b) w ↔ lang a w ∨ lang b w := by
  have hne : ∀ r : Rx, lang r w → r ≠ empty := fun r h he => by subst he; exact h
  simp only [mkAlt, lang_altOfList, mem_foldl_insert mem_insertDedup, List.not_mem_nil, or_false, List.mem_filter,
    List.mem_append, decide_eq_true_eq, ← lang_flattenAlt a, ← lang_flattenAlt b]
  constructor
  · rintro ⟨r, ⟨h, _⟩, hl⟩
    exact h.imp (fun h => ⟨r, h, hl⟩) (fun h => ⟨r, h, hl⟩)
  · rintro (⟨r, h, hl⟩ | ⟨r, h, hl⟩)
    · exact ⟨r, ⟨Or.inl h, hne r hl⟩, hl⟩
    · exact ⟨r, ⟨Or.inr h, hne r hl⟩, hl⟩

theorem lang_mkCat (a b : Rx) (w : List B) : lang (mkCat a b) w ↔ lang (cat a b) w := by
  unfold mkCat
  split
  · simp [lang]
  · simp [lang]
  · exact (lang_cat_eps_left _ w).symm
  · exact (lang_cat_eps_right _ w).symm
  · rfl

theorem lang_mkAnd (a b : Rx) (w : List B) : lang (mkAnd a b) w ↔ lang a w ∧ lang b w := by
  unfold mkAnd
  split
  · simp [lang]
  · simp [lang]
  · split
    · rename_i h; subst h; exact ⟨fun h => ⟨h, h⟩, And.left⟩
    · rfl

theorem lang_mkNot (a : Rx) (w : List B) : lang (mkNot a) w ↔ ¬ lang a w := by
  unfold mkNot
  split
  · exact Classical.not_not.symm
  · rfl

theorem derivN_iff (r : Rx) (b : B) (w : List B) : lang (derivN r b) w ↔ lang r (b :: w) := by
  rw [← deriv_iff]
  induction r generalizing w with
  | empty | eps | set rs => rfl
  | cat a c iha ihc =>
    simp only [derivN, deriv]
    split
    · simp only [lang_mkAlt, lang_mkCat, lang, iha, ihc]
    · simp only [lang_mkCat, lang, iha]
  | alt a c iha ihc => simp only [derivN, deriv, lang_mkAlt, lang, iha, ihc]
  | and a c iha ihc => simp only [derivN, deriv, lang_mkAnd, lang, iha, ihc]
  | not a iha => simp only [derivN, deriv, lang_mkNot, lang, iha]
  | star a iha => simp only [derivN, deriv, lang_mkCat, lang, iha]

theorem derivsN_iff (r : Rx) (w v : List B) : lang (derivsN r w) v ↔ lang r (w ++ v) := by
  induction w generalizing r with
  | nil => rfl
  | cons b w ih => simp only [derivsN, ih, derivN_iff, List.cons_append]

end Rx
end LlgVerif
