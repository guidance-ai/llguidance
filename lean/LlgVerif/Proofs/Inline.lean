/-
The inlining certificate M9: what `checkInline` establishes (`InlineOK`), and the two directions of
"an accepted pair derives the same strings".
-/
import LlgVerif.Model.Inline
import LlgVerif.Proofs.CfgDeriv
import LlgVerif.Proofs.ListFacts
namespace LlgVerif
namespace Cfg

variable {N : Type} [DecidableEq N]

theorem subst_cons (R : RMap N) (s : Sym N) (α : List (Sym N)) :
    subst R (s :: α) = substSym R s ++ subst R α := by
  simp [subst, List.flatMap_cons]

theorem rlookup_mem (R : RMap N) (a : N) (γ : List (Sym N)) (h : rlookup R a = some γ) :
    (a, γ) ∈ R := by
  induction R with
  | nil => cases h
  | cons p R ih =>
    obtain ⟨b, δ⟩ := p
    simp only [rlookup] at h
    split at h
    · rename_i hb
      obtain rfl := Option.some.inj h
      exact hb ▸ List.mem_cons_self
    · exact List.mem_cons_of_mem _ (ih h)

theorem inDom_of_lookup {R : RMap N} {a : N} {γ : List (Sym N)} (h : rlookup R a = some γ) :
    inDom R a = true := by rw [inDom, h]; rfl

theorem inDom_of_lookup_none {R : RMap N} {a : N} (h : rlookup R a = none) : inDom R a = false := by
  rw [inDom, h]; rfl

theorem substSym_cases (R : RMap N) (x : Sym N) :
    (substSym R x = [x] ∧ ∀ a, x = Sym.nt a → inDom R a = false) ∨
    ∃ a γ, x = Sym.nt a ∧ rlookup R a = some γ ∧ substSym R x = γ := by
  cases x with
  | t lo hi => exact .inl ⟨rfl, fun a h => by cases h⟩
  | nt a =>
    cases hl : rlookup R a with
    | none => exact .inl ⟨by simp [substSym, hl], fun b h => by cases h; exact inDom_of_lookup_none hl⟩
    | some γ => exact .inr ⟨a, γ, rfl, hl, by simp [substSym, hl]⟩

def domFree (R : RMap N) (γ : List (Sym N)) : Prop := ∀ a, Sym.nt a ∈ γ → inDom R a = false

theorem subst_id (R : RMap N) (γ : List (Sym N)) (h : domFree R γ) : subst R γ = γ := by
  induction γ with
  | nil => rfl
  | cons s γ ih =>
    rw [subst_cons, ih fun a ha => h a (List.mem_cons_of_mem _ ha)]
    rcases substSym_cases R s with ⟨e, _⟩ | ⟨a, γa, rfl, hl, _⟩
    · rw [e]; rfl
    · have := h a List.mem_cons_self
      rw [inDom_of_lookup hl] at this
      cases this

theorem domFree_subst (R : RMap N) (β : List (Sym N))
    (h : ∀ b γb, Sym.nt b ∈ β → rlookup R b = some γb → domFree R γb) : domFree R (subst R β) := by
  intro a ha
  obtain ⟨x, hx, hax⟩ := List.mem_flatMap.mp ha
  rcases substSym_cases R x with ⟨e, hfree⟩ | ⟨b, γb, rfl, hl, e⟩
  · rw [e, List.mem_singleton] at hax
    exact hfree a hax.symm
  · exact h b γb hx hl a (e ▸ hax)

theorem unsubst_form (G : Gram N) (R : RMap N) (β : List (Sym N)) (u : List B)
    (hexp : ∀ b γ, Sym.nt b ∈ β → rlookup R b = some γ → ∀ u, DL G γ u → DL G [Sym.nt b] u)
    (h : DL G (subst R β) u) : DL G β u := by
  induction β generalizing u with
  | nil => exact h
  | cons x β ih =>
    rw [subst_cons] at h
    obtain ⟨u1, u2, rfl, h1, h2⟩ := DL_split h
    refine DL_append (α := [x]) ?_ (ih u2 (fun b γ hb => hexp b γ (List.mem_cons_of_mem _ hb)) h2)
    rcases substSym_cases R x with ⟨e, _⟩ | ⟨b, γ, rfl, hl, e⟩
    · exact e ▸ h1
    · exact hexp b γ List.mem_cons_self hl u1 (e ▸ h1)

/-- what an accepted certificate says (`inlineOK_of_check`) -/
structure InlineOK (G G' : Gram N) (R : RMap N) (rk : N → Nat) (prot : List N) : Prop where
  replaced : ∀ s γ, rlookup R s = some γ → ∃ β, (s, β) ∈ G ∧ (∀ β', (s, β') ∈ G → β' = β) ∧
    γ = subst R β ∧ ∀ b, Sym.nt b ∈ β → inDom R b = true → rk b < rk s
  new_rule : ∀ a β', (a, β') ∈ G' → inDom R a = false → ∃ β, (a, β) ∈ G ∧ β' = subst R β
  old_rule : ∀ a β, (a, β) ∈ G → inDom R a = false → (a, subst R β) ∈ G'
  kept : ∀ a ∈ prot, inDom R a = false

theorem inlineOK_of_check {G G' : Gram N} {R : RMap N} {rk : N → Nat} {prot : List N}
    (hc : checkInline G G' R rk prot = true) : InlineOK G G' R rk prot := by
  simp only [checkInline, Bool.and_eq_true, List.all_eq_true, Bool.or_eq_true, List.any_eq_true,
    Bool.not_eq_eq_eq_not, Bool.not_true, decide_eq_true_eq, List.contains_iff_mem] at hc
  obtain ⟨⟨⟨hrepl, hnew⟩, hold⟩, hprot⟩ := hc
  refine ⟨fun s γ h => ?_, fun a β' h hk => ?_, fun a β h hk => ?_, hprot⟩
  · have hs := hrepl (s, γ) (rlookup_mem R s γ h)
    split at hs
    · rename_i r hf
      obtain ⟨hr, hrs, huniq⟩ := filter_eq_singleton hf
      obtain rfl : r.1 = s := of_decide_eq_true hrs
      simp only [Bool.and_eq_true, decide_eq_true_eq] at hs
      obtain ⟨⟨-, hγ⟩, hrank⟩ := hs
      refine ⟨r.2, hr, fun β' hβ' => congrArg Prod.snd (huniq _ hβ' (decide_eq_true rfl)), hγ,
        fun b hb hd => ?_⟩
      simpa [hd] using List.all_eq_true.mp hrank _ hb
    · cases hs
  · obtain ⟨r, hr, -, he⟩ := (hnew _ h).resolve_left (ne_true_of_eq_false hk)
    cases he
    exact ⟨r.2, hr, rfl⟩
  · exact (hold _ h).resolve_left (ne_true_of_eq_false hk)

variable {G G' : Gram N} {R : RMap N} {rk : N → Nat} {prot : List N} (ok : InlineOK G G' R rk prot)
include ok

/-- induction over the replaced symbols along the rank -/
theorem replaced_ind {P : N → List (Sym N) → Prop}
    (step : ∀ a β, (a, β) ∈ G → (∀ b γ, Sym.nt b ∈ β → rlookup R b = some γ → P b γ) → P a (subst R β))
    (a : N) (γ : List (Sym N)) (hl : rlookup R a = some γ) : P a γ := by
  induction hn : rk a using Nat.strongRecOn generalizing a γ with
  | ind n ih =>
    obtain ⟨β, hβ, _, rfl, hrank⟩ := ok.replaced a γ hl
    exact step a β hβ fun b γb hb hlb =>
      ih (rk b) (hn ▸ hrank b hb (inDom_of_lookup hlb)) b γb hlb rfl

theorem expand_ok (a : N) (γ : List (Sym N)) (hl : rlookup R a = some γ) (u : List B)
    (h : DL G γ u) : DL G [Sym.nt a] u :=
  replaced_ind ok (P := fun a γ => ∀ u, DL G γ u → DL G [Sym.nt a] u)
    (fun _ β hβ ih u hu => DL_single hβ (unsubst_form G R β u ih hu)) a γ hl u h

theorem repl_domFree (a : N) (γ : List (Sym N)) (hl : rlookup R a = some γ) : domFree R γ :=
  replaced_ind ok (P := fun _ γ => domFree R γ) (fun _ β _ ih => domFree_subst R β ih) a γ hl

/-- rules left behind in `G'` for replaced symbols are never reached from a form without replaced symbols -/
theorem inline_sound (γ : List (Sym N)) (w : List B) (h : DL G' γ w) (hf : domFree R γ) : DL G γ w := by
  induction h with
  | nil => exact DL.nil
  | @t lo hi b α w' h1 h2 _ ih =>
    exact DL.t h1 h2 (ih (fun a ha => hf a (List.mem_cons_of_mem _ ha)))
  | @nt a β' α u v hr _ _ ih1 ih2 =>
    obtain ⟨β, hβ, rfl⟩ := ok.new_rule a β' hr (hf a List.mem_cons_self)
    have hu : DL G β u := unsubst_form G R β u (fun b γb _ => expand_ok ok b γb)
      (ih1 (domFree_subst R β fun b γb _ => repl_domFree ok b γb))
    exact DL.nt hβ hu (ih2 (fun a ha => hf a (List.mem_cons_of_mem _ ha)))

theorem inline_complete (γ : List (Sym N)) (w : List B) (h : DL G γ w) : DL G' (subst R γ) w := by
  induction h with
  | nil => exact DL.nil
  | @t lo hi b α w' h1 h2 _ ih =>
    rw [subst_cons]; exact DL.t h1 h2 ih
  | @nt a β α u v hr _ _ ih1 ih2 =>
    rw [subst_cons]
    rcases substSym_cases R (Sym.nt a) with ⟨e, hfree⟩ | ⟨_, γa, ha, hl, e⟩
    · rw [e]; exact DL.nt (ok.old_rule a β hr (hfree a rfl)) ih1 ih2
    · cases ha
      obtain ⟨β0, _, huniq, hγ, _⟩ := ok.replaced a γa hl
      rw [e, hγ, ← huniq β hr]
      exact DL_append ih1 ih2

end Cfg
end LlgVerif
