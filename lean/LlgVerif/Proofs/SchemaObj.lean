/-
The object arm of `intersect`, name by name: a member is judged by the schema its name selects
(`propSchema`), and under every name the selected schema of the result meets those of the operands.
-/
import LlgVerif.Proofs.Schema
namespace LlgVerif
namespace Sch
open Js

variable {ρ : String → String → Bool} {isMult : Dec → Num → Bool}

/-! Members by name: `propSchema p d` is the normal form, with any node `d` for the names `p` does not list.
Appending lists nests the defaults (`propSchema_append`), which is how the two property loops compose. -/

theorem propSchema_cons (k : String) (s : Sch) (t : SchKL) (d : Sch) (key : String) :
    propSchema (.cons k s t) d key = if k == key then s else propSchema t d key := by
  simp only [propSchema, SchKL.lookup]
  cases k == key <;> rfl

theorem propSchema_of_not_hasKey (d : Sch) (key : String) : ∀ p : SchKL, p.hasKey key = false → propSchema p d key = d
  | .nil, _ => rfl
  | .cons k s t, h => by
      simp only [SchKL.hasKey, Bool.or_eq_false_iff] at h
      simp only [propSchema_cons, h.1, Bool.false_eq_true, ↓reduceIte]
      exact propSchema_of_not_hasKey d key t h.2

theorem propSchema_append (d : Sch) (key : String) (q : SchKL) : ∀ p : SchKL,
    propSchema (p.append q) d key = propSchema p (propSchema q d key) key
  | .nil => rfl
  | .cons k s t => by simp only [SchKL.append, propSchema_cons, propSchema_append d key q t]

theorem hasKey_append (key : String) (q : SchKL) : ∀ p : SchKL, (p.append q).hasKey key = (p.hasKey key || q.hasKey key)
  | .nil => rfl
  | .cons k s t => by simp only [SchKL.append, SchKL.hasKey, hasKey_append key q t, Bool.or_assoc]

theorem propSchema_sat (ap : Sch) (key : String) (v : Json) : ∀ p : SchKL,
    sat ρ isMult (propSchema p ap key) v = satKV ρ isMult (sat ρ isMult ap) p key v
  | .nil => rfl
  | .cons k s t => by
      rw [propSchema_cons, satKV]
      cases k == key
      · exact propSchema_sat ap key v t
      · rfl

variable (ρ isMult) in
theorem satKV_hasKey (f f' : Json → Bool) (v : Json) (key : String) :
    ∀ p : SchKL, p.hasKey key = true → satKV ρ isMult f p key v = satKV ρ isMult f' p key v := by
  intro p h
  match p with
  | .nil => cases h
  | .cons k s t =>
    simp only [SchKL.hasKey] at h
    simp only [satKV]
    cases hk : k == key
    · exact satKV_hasKey f f' v key t (by simpa only [hk, Bool.false_or] using h)
    · rfl

theorem propSchema_ok (d : Sch) (hd : Ok d = true) (key : String) :
    ∀ p : SchKL, OkKL p = true → Ok (propSchema p d key) = true
  | .nil, _ => hd
  | .cons k s t, hp => by
      simp only [OkKL, Bool.and_eq_true] at hp
      rw [propSchema_cons]
      cases k == key
      · exact propSchema_ok d hd key t hp.2
      · exact hp.1

/-- the first loop: under a name the left object lists, the result holds its schema met with the right object's
for that name; under any other name both lists pass to their defaults `d1`, `d`, whatever these are -/
theorem mapLeft_spec (g : Sch → Sch → Option Sch) (hg : Good ρ isMult g) (p2 : SchKL) (a2 : Sch)
    (hp2 : OkKL p2 = true) (ha2 : Ok a2 = true) :
    ∀ (p1 q : SchKL), SchKL.mapLeft g p2 a2 p1 = some q → OkKL p1 = true →
      OkKL q = true ∧ ∀ key d1 d, (p1.hasKey key = false → Meet ρ isMult d1 (propSchema p2 a2 key) d) →
        Meet ρ isMult (propSchema p1 d1 key) (propSchema p2 a2 key) (propSchema q d key)
  | .nil, q, h, _ => by cases h; exact ⟨rfl, fun _ _ _ hd => hd rfl⟩
  | .cons k s t, q, h, hp1 => by
      simp only [SchKL.mapLeft, Option.bind_eq_bind, Option.bind_eq_some_iff, Option.pure_def, Option.some.injEq] at h
      obtain ⟨s', hs', t', ht', rfl⟩ := h
      simp only [OkKL, Bool.and_eq_true] at hp1
      have hm := hg hs' hp1.1 (propSchema_ok a2 ha2 k p2 hp2)
      obtain ⟨h1, h2⟩ := mapLeft_spec g hg p2 a2 hp2 ha2 t t' ht' hp1.2
      refine ⟨by simp only [OkKL, hm.ok, h1, Bool.and_self], fun key d1 d hd => ?_⟩
      cases hk : k == key <;> simp only [propSchema_cons, SchKL.hasKey, hk, Bool.false_or, Bool.false_eq_true, ↓reduceIte] at hd ⊢
      · exact h2 key d1 d hd
      · exact beq_iff_eq.mp hk ▸ hm

/-- the second loop: under a name the left object does not list, its additional-properties schema `a1` met with
the right object's schema for that name -/
theorem mapRight_spec (g : Sch → Sch → Option Sch) (hg : Good ρ isMult g) (p1 : SchKL) (a1 : Sch) (ha1 : Ok a1 = true) :
    ∀ (p2 q : SchKL), SchKL.mapRight g p1 a1 p2 = some q → OkKL p2 = true →
      OkKL q = true ∧ ∀ key d2 d, p1.hasKey key = false → Meet ρ isMult a1 d2 d →
        Meet ρ isMult a1 (propSchema p2 d2 key) (propSchema q d key)
  | .nil, q, h, _ => by cases h; exact ⟨rfl, fun _ _ _ _ hd => hd⟩
  | .cons k s t, q, h, hp2 => by
      simp only [OkKL, Bool.and_eq_true] at hp2
      simp only [SchKL.mapRight] at h
      cases hin : p1.hasKey k
      · -- `k` is new: it is kept, met with `a1`
        simp only [hin, Bool.false_eq_true, ↓reduceIte, Option.bind_eq_bind, Option.bind_eq_some_iff, Option.pure_def,
          Option.some.injEq] at h
        obtain ⟨s', hs', t', ht', rfl⟩ := h
        rw [propSchema_of_not_hasKey a1 k p1 hin] at hs'
        have hm := hg hs' ha1 hp2.1
        obtain ⟨h1, h2⟩ := mapRight_spec g hg p1 a1 ha1 t t' ht' hp2.2
        refine ⟨by simp only [OkKL, hm.ok, h1, Bool.and_self], fun key d2 d hkey hd => ?_⟩
        cases hk : k == key <;> simp only [propSchema_cons, hk, Bool.false_eq_true, ↓reduceIte]
        · exact h2 key d2 d hkey hd
        · exact hm
      · -- `k` is named on the left: dropped here, and never looked up below
        simp only [hin, ↓reduceIte] at h
        obtain ⟨h1, h2⟩ := mapRight_spec g hg p1 a1 ha1 t q h hp2.2
        refine ⟨h1, fun key d2 d hkey hd => ?_⟩
        cases hk : k == key <;> simp only [propSchema_cons, hk, Bool.false_eq_true, ↓reduceIte]
        · exact h2 key d2 d hkey hd
        · rw [beq_iff_eq.mp hk, hkey] at hin
          cases hin

theorem OkKL_append : ∀ (p q : SchKL), OkKL (p.append q) = (OkKL p && OkKL q)
  | .nil, q => rfl
  | .cons k s t, q => by simp only [SchKL.append, OkKL, OkKL_append t q, Bool.and_assoc]

theorem props_meet {g : Sch → Sch → Option Sch} (hg : Good ρ isMult g) {p1 p2 q1 q2 : SchKL} {a1 a2 it : Sch}
    (hp1 : OkKL p1 = true) (ha1 : Ok a1 = true) (hp2 : OkKL p2 = true) (ha2 : Ok a2 = true)
    (hq1 : SchKL.mapLeft g p2 a2 p1 = some q1) (hq2 : SchKL.mapRight g p1 a1 p2 = some q2)
    (hit : Meet ρ isMult a1 a2 it) :
    OkKL (q1.append q2) = true ∧
      ∀ key, Meet ρ isMult (propSchema p1 a1 key) (propSchema p2 a2 key) (propSchema (q1.append q2) it key) := by
  obtain ⟨ok1, l1⟩ := mapLeft_spec g hg p2 a2 hp2 ha2 p1 q1 hq1 hp1
  obtain ⟨ok2, l2⟩ := mapRight_spec g hg p1 a1 ha1 p2 q2 hq2 hp2
  refine ⟨by rw [OkKL_append, ok1, ok2]; rfl, fun key => ?_⟩
  rw [propSchema_append]
  exact l1 key a1 _ fun hkey => l2 key a2 it hkey hit

theorem all_union (P : String → Bool) (r1 r2 : List String) :
    (r1 ++ r2.filter (fun k => !r1.contains k)).all P = (r1.all P && r2.all P) := by
  rw [List.all_append, List.all_filter]
  cases h1 : r1.all P
  · rfl
  · -- a name of `r2` that `r1` has is tested there already
    refine congrArg (true && r2.all ·) (funext fun a => ?_)
    cases hc : r1.contains a
    · rfl
    · rw [List.all_eq_true.mp h1 a (List.contains_iff_mem.mp hc)]; rfl

theorem nodupB_iff : ∀ l : List String, nodupB l = true ↔ l.Nodup
  | [] => by simp [nodupB]
  | x :: xs => by simp [nodupB, nodupB_iff xs, List.nodup_cons]

theorem nodup_union (r1 r2 : List String) (h1 : nodupB r1 = true) (h2 : nodupB r2 = true) :
    nodupB (r1 ++ r2.filter (fun k => !r1.contains k)) = true := by
  rw [nodupB_iff] at h1 h2 ⊢
  rw [List.nodup_append]
  refine ⟨h1, h2.filter _, ?_⟩
  intro a ha b hb
  simp only [List.mem_filter, Bool.not_eq_true'] at hb
  intro e; subst e
  have : r1.contains a = true := by simpa using ha
  rw [hb.2] at this; cases this

theorem required_count (req : List String) (kvs : List (String × Json)) (hnd : nodupB req = true)
    (h : req.all (fun k => kvs.any (fun kv => kv.1 == k)) = true) : req.length ≤ kvs.length := by
  have := List.Nodup.length_le_of_subset ((nodupB_iff req).mp hnd) (l₂ := kvs.map (·.1)) fun k hk => by
    obtain ⟨kv, hkv, he⟩ := List.any_eq_true.mp (List.all_eq_true.mp h k hk)
    exact List.mem_map.mpr ⟨kv, hkv, beq_iff_eq.mp he⟩
  rwa [List.length_map] at this

/-- `mk_object_schema`: an object that cannot have enough members is replaced by `unsat` -/
theorem meet_mkObject {a b : Sch} {q : SchKL} {fl : Bool} {it : Sch} {req : List String} {lo : Nat} {hi : Option Nat}
    (hnd : nodupB req = true) (h : Meet ρ isMult a b (.object q fl it req lo hi)) :
    Meet ρ isMult a b
      (if (match hi with | some h => decide (lo > h) | none => false) then .unsat
       else if (match hi with | some h => decide (req.length > h) | none => false) then .unsat
       else .object q fl it req lo hi) := by
  cases hi with
  | none => exact h
  | some m =>
    have hempty : lo > m ∨ req.length > m → Meet ρ isMult a b .unsat := fun hgt =>
      ⟨rfl, fun v => by
        rw [← h.sat_eq v]
        cases v <;> try rfl
        rename_i kvs
        cases hs : sat ρ isMult (.object q fl it req lo (some m)) (.obj kvs)
        · rfl
        · -- an instance has at least `lo` members, at least the required ones, and at most `m`
          simp only [sat, optAll, Bool.and_eq_true, decide_eq_true_eq] at hs
          have := required_count req kvs hnd hs.1.1.1
          omega⟩
    simp only [decide_eq_true_eq]
    split
    · exact hempty (.inl ‹_›)
    · split
      · exact hempty (.inr ‹_›)
      · exact h

end Sch
end LlgVerif
