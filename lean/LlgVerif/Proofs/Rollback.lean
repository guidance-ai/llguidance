/- Rollback arithmetic (`Model/Cache.lean`): `token_len` counts the bytes a commit applied, and
cutting every list back by those counts undoes any run of commits. -/
import LlgVerif.Model.Cache
namespace LlgVerif

theorem digitsLoop_add_one (fuel n len : Nat) :
    digitsLoop fuel n len + 1 = len + (decDigits fuel n).length := by
  induction fuel generalizing n len with
  | zero => rfl
  | succ f ih =>
    simp only [digitsLoop, decDigits]
    split
    · rw [ih, List.length_append, List.length_singleton]; omega
    · rfl

/-- The number of bytes `rollback` attributes to a token
(`TokTrie::token_len`, which counts decimal digits in a loop) is the number of bytes `commit`
applied for it (`TokTrie::decode_raw`, which prints `\xFF[<id>]` for special and empty tokens). -/
theorem tokenLen_eq_decodeRaw_length (v : Vocab) (t : Nat) :
    v.tokenLen t = (v.decodeRaw t).length := by
  unfold Vocab.tokenLen Vocab.decodeRaw
  split
  · have := digitsLoop_add_one (t + 1) t 1
    simp only [specialTokenLen, decodeSpecial, List.length_cons, List.length_append,
      List.length_nil]
    omega
  · rfl

/-- a committed token with the lexer-stack entries pushed for its bytes (any token id: an EOS token
the grammar consumes as a token is committed like every other special token) -/
structure Cmt (LS : Type) where
  t : Nat
  ls : List LS

-- no proof uses `Cmt.WF`: rollback cuts the lexer stack by length, whatever was pushed
def Cmt.WF {LS} (v : Vocab) (c : Cmt LS) : Prop := c.ls.length = (v.decodeRaw c.t).length

def RState.apply {LS} (v : Vocab) (s : RState LS) (c : Cmt LS) : RState LS := s.commit v c.t c.ls

def RState.WF {LS} (s : RState LS) : Prop :=
  s.byteTok.length = s.pBytes.length ∧ s.llmBytes.length = s.pBytes.length ∧
  s.lexStack.length = s.pBytes.length + 1

theorem apply_decomp {LS} (v : Vocab) (cs : List (Cmt LS)) (s : RState LS) :
    ∃ (B : List Byte') (T : List Nat) (Ls : List LS),
      cs.foldl (RState.apply v) s =
        { tokens := s.tokens ++ cs.map Cmt.t, llmBytes := s.llmBytes ++ B,
          pBytes := s.pBytes ++ B, byteTok := s.byteTok ++ T, lexStack := s.lexStack ++ Ls,
          stopOk := s.stopOk, bareEos := if cs = [] then s.bareEos else false } ∧
      T.length = B.length ∧ ((cs.map Cmt.t).map v.tokenLen).sum = B.length := by
  induction cs generalizing s with
  | nil => exact ⟨[], [], [], by simp, rfl, rfl⟩
  | cons c cs ih =>
    obtain ⟨B, T, Ls, heq, h1, h3⟩ := ih (s.apply v c)
    refine ⟨v.decodeRaw c.t ++ B, List.replicate (v.decodeRaw c.t).length s.tokens.length ++ T,
      c.ls ++ Ls, ?_, by simp [h1], ?_⟩
    · rw [List.foldl_cons, heq]
      simp [RState.apply, RState.commit]
    · simp only [List.map_cons, List.sum_cons, List.length_append, h3,
        tokenLen_eq_decodeRaw_length]

/-- `hB`, `hT`: the extension holds the bytes `rollback` attributes to `ts` and one `byteTok` entry per
byte; nothing is asked of what was pushed on the lexer stack. -/
theorem rollback_extension {LS} (v : Vocab) (s : RState LS)
    (w1 : s.byteTok.length = s.pBytes.length) (w3 : s.lexStack.length = s.pBytes.length + 1)
    {ts : List Nat} {B : List Byte'} {T : List Nat} {Ls : List LS} {so be : Bool} {k : Nat}
    (hts : ts ≠ []) (hT : T.length = B.length) (hB : bytesToDrop v ts be = B.length)
    (hk : k = ts.length) :
    RState.rollback v
        { tokens := s.tokens ++ ts, llmBytes := s.llmBytes ++ B, pBytes := s.pBytes ++ B,
          byteTok := s.byteTok ++ T, lexStack := s.lexStack ++ Ls, stopOk := so, bareEos := be }
        k =
      some { s with stopOk := false, bareEos := false } := by
  subst hk
  have hk : ts.length ≠ 0 := fun h => hts (List.length_eq_zero_iff.mp h)
  simp only [RState.rollback, hk, ↓reduceIte, List.length_append, Nat.add_sub_cancel,
    List.drop_left', hB, hT, Nat.not_lt.mpr (Nat.le_add_left _ _), or_self, List.take_left']
  rw [w1, List.take_left' rfl, ← w3, List.take_left' rfl]

end LlgVerif
