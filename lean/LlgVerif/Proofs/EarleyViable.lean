/-
Valid-prefix property of the Earley item sets: when every symbol that occurs in a right-hand side is
productive (`CG.allProductive`, an executable check), the lexemes before the row of any `Want` item —
hence of any item of any row of the model — extend to an accepted input.
-/
import LlgVerif.Proofs.Earley
namespace LlgVerif
namespace Ey

/-- derivations are positional, so: after any input the symbol derives some continuation -/
def Productive (g : CG) (s : Nat) : Prop :=
  ∀ pre : List (List Nat), ∃ v, Der g (pre ++ v) s pre.length (pre ++ v).length

theorem extend_seq (g : CG) {inp : List (List Nat)} {r0 r i : Nat} (hs : Seq g inp r0 r i inp.length)
    (hall : ∀ x ∈ g.rhsFrom g.rhs.size r, Productive g x) :
    ∃ p v, Seq g (inp ++ v) r0 p i (inp ++ v).length ∧ g.atDot p = 0 := by
  obtain ⟨p, ⟨v, hp⟩, h0⟩ := rhsFrom_walk (S := fun q => ∃ v, Seq g (inp ++ v) r0 q i (inp ++ v).length)
    (A := Productive g) (fun q ⟨v, hq⟩ hne hprod => by
      obtain ⟨v1, hd⟩ := hprod (inp ++ v)
      exact ⟨v ++ v1, by
        rw [← List.append_assoc]
        exact Seq.snoc (seq_local hq (fun _ hk => getD_append_left _ _ _ hk) (by simp)) hne hd⟩)
    g.rhs.size r (by omega) ⟨[], by simpa using hs⟩ hall
  exact ⟨p, v, hp, h0⟩

theorem prodIter_sound (g : CG) : ∀ n s, s ∈ prodIter g n → Productive g s := by
  intro n
  induction n with
  | zero => intro s hs; cases hs
  | succ n ih =>
    intro s hs pre
    simp only [prodIter, prodStep, List.mem_filter, List.mem_range, Bool.or_eq_true,
      List.any_eq_true, List.all_eq_true] at hs
    obtain ⟨_, ((h | h) | h) | ⟨r, hr, hall⟩⟩ := hs
    · exact ih s (by simpa using h) pre
    · obtain ⟨l, hl⟩ := Option.isSome_iff_exists.mp h
      exact ⟨[[l]], by
        simpa using (Der.lex hl (by simp [List.getD_eq_getElem?_getD]) (by simp) :
          Der g (pre ++ [[l]]) s pre.length (pre.length + 1))⟩
    · exact ⟨[], by simpa using (Der.null h : Der g (pre ++ []) s pre.length pre.length)⟩
    · obtain ⟨p, v, hp, h0⟩ := extend_seq g (inp := pre) Seq.nil
        (fun x hx => ih x (by simpa using hall x hx))
      exact ⟨v, Der.rule hr hp h0⟩

/-- what a passed `CG.allProductive` establishes (`allProd_of_check`) -/
structure AllProd (g : CG) : Prop where
  prod : ∀ p, g.atDot p ≠ 0 → Productive g (g.atDot p)

theorem allProd_of_check (g : CG) (h : g.allProductive = true) : AllProd g := by
  refine ⟨fun p hne => ?_⟩
  have := List.all_eq_true.mp h p (List.mem_range.mpr (atDot_lt hne))
  exact prodIter_sound g _ _ (by simpa [hne] using this)

theorem finish_rule (g : CG) (hp : AllProd g) {inp : List (List Nat)} {r p i : Nat}
    (hs : Seq g inp r p i inp.length) :
    ∃ p' v, Seq g (inp ++ v) r p' i (inp ++ v).length ∧ g.atDot p' = 0 :=
  extend_seq g hs (fun x hx => by
    obtain ⟨q, hrq, rfl, hnz⟩ := mem_rhsFrom hx
    exact hp.prod q (hnz q hrq (Nat.le_refl _)))

/-- whatever a rule of `A`, predicted after the first `i` lexemes of `lexs`, has derived so far can
be continued to an accepted input -/
def Cont (g : CG) (lexs : List (List Nat)) (i A : Nat) : Prop :=
  ∀ inp : List (List Nat), (∀ k, k < i → inp.getD k [] = lexs.getD k []) →
    ∀ r ∈ (g.sym A).rules, ∀ p, Seq g inp r p i inp.length → ∃ v, Accepts g (inp ++ v)

theorem want_cont {g : CG} (hw : WF g) (hp : AllProd g) {lexs : List (List Nat)} {j : Nat} {it : Item}
    (h : Want g lexs j it) : Cont g lexs it.2 (g.lhs it.1) := by
  induction h with
  | @start r hr =>
    intro inp _ r' hr' p hs
    rw [hw.lhs_of_rule hr] at hr'
    obtain ⟨p', v, hs', h0⟩ := finish_rule g hp hs
    exact ⟨v, r', hr', p', hs', h0⟩
  | @predict j p i r hwant hne hr ih =>
    -- a rule of `B = atDot p` predicted at `j`: finish it, then continue the parent item over `B`
    intro inp hagree rB hrB pB hsB
    rw [hw.lhs_of_rule hr] at hrB
    obtain ⟨p1, v1, hs1, h01⟩ := finish_rule g hp hsB
    have hle := (want_sound hw hwant).le
    obtain ⟨r0, hr0, hs0⟩ := (want_sound hw hwant).seq
    have hj := seq_le hsB
    have hag : ∀ k, k < j → (inp ++ v1).getD k [] = lexs.getD k [] := fun k hk => by
      rw [getD_append_left _ _ _ (by omega)]; exact hagree k hk
    obtain ⟨v2, hacc⟩ := ih (inp ++ v1) (fun k hk => hag k (by omega)) r0 hr0 (p + 1)
      (Seq.snoc (seq_local hs0 hag (by simp; omega)) hne (Der.rule hrB hs1 h01))
    exact ⟨v1 ++ v2, by rwa [← List.append_assoc]⟩
  -- the other steps keep the start row and the left-hand side, which is all `Cont` looks at
  | nullable _ hne _ ih => simpa only [hw.lhs_succ hne] using ih
  | scan _ hl _ _ ih => simpa only [hw.lhs_succ (hw.lexeme_ne hl)] using ih
  | complete hw1 _ _ _ hq _ ih2 =>
    obtain ⟨r, hr, _⟩ := (want_sound hw hw1).seq
    simpa only [hw.lhs_succ (hq ▸ hw.rule_ne hr)] using ih2

/-- **valid-prefix property**: the lexemes before the row of a wanted item extend to an accepted input -/
theorem want_viable {g : CG} (hw : WF g) (hp : AllProd g) {lexs : List (List Nat)} {j : Nat} {it : Item}
    (h : Want g lexs j it) : ∃ v, Accepts g (lexs.take j ++ v) := by
  have hle := (want_sound hw h).le
  obtain ⟨r, hr, hs⟩ := (want_sound hw h).seq
  have hlen : (lexs.take j).length = j := List.length_take_of_le (want_row_le h)
  exact want_cont hw hp h _ (fun k hk => getD_take _ _ (by omega)) r hr it.1
    (hlen.symm ▸ seq_local hs (fun _ hk => getD_take _ _ hk) (by omega))

end Ey
end LlgVerif
