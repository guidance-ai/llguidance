/-
C04 — a regular-expression constraint admits exactly the regex's language (spec S2).

The theorems state that the Lean deciders used to judge the implementation are exact:
`matchesB` (derivatives) decides membership for every regex and byte string, and a DFA certificate
accepted by `Dfa.check` decides membership *and* viability ("is a prefix of some member") for
every byte string.  The implementation is judged against them on every run (impl-vs-spec).
-/
import LlgVerif.Proofs.RegexDfa
import LlgVerif.Proofs.RegexRep
namespace LlgVerif
open Rx

/-- the derivative matcher decides membership (all constructors incl. intersection, complement, star) -/
theorem matches_iff_lang (r : Rx) (w : List B) : matchesB r w = true ↔ lang r w := by
  unfold matchesB
  rw [nullable_iff, derivs_iff, List.append_nil]

/-- complete acceptance and prefix viability are decided by any certificate
the checker accepts (the construction of the certificate is untrusted). -/
theorem viable_decided (r : Rx) (d : Dfa) (h : Dfa.check r d = true) (w : List B) :
    (Dfa.accepts d w = true ↔ lang r w) ∧ (Dfa.viable d w = true ↔ ∃ v, lang r (w ++ v)) :=
  Dfa.dfa_decides h w

/-- for a token with bytes `t` after text `w`: the spec's answer
"`w ++ t` is viable" is exactly "some completion of `w ++ t` matches". -/
theorem token_allowed_spec (r : Rx) (d : Dfa) (h : Dfa.check r d = true) (w t : List B) :
    Dfa.viable d (w ++ t) = true ↔ ∃ v, lang r (w ++ t ++ v) :=
  (Dfa.dfa_decides h (w ++ t)).2

/-- normalised derivatives are derivatives (what the certificate's transitions are checked against) -/
theorem derivN_correct (r : Rx) (b : B) (w : List B) : lang (derivN r b) w ↔ lang r (b :: w) :=
  derivN_iff r b w

/-- `r{m,n}`, `r{m,}` denote exactly the counts in range (`max m n`: for `n < m` exactly `m`) -/
theorem regex_rep_counts (r : Rx) (m : Nat) (n : Option Nat) (w : List B) :
    lang (rep r m n) w ↔
      ∃ c, m ≤ c ∧ (match n with | some n => c ≤ max m n | none => True) ∧ pow (lang r) c w :=
  rep_counts r m n w

/-- Non-vacuity: `(ab)*c` with intersection/complement: `ab·ab·c` matches `(ab)*c & ~(abc)`. -/
example :
    let ab : Rx := cat (set [(97, 97)]) (set [(98, 98)])
    let r : Rx := and (cat (star ab) (set [(99, 99)])) (not (cat ab (set [(99, 99)])))
    matchesB r [97, 98, 97, 98, 99] = true ∧ matchesB r [97, 98, 99] = false := by decide

end LlgVerif
