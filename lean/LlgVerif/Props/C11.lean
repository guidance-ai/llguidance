/-
C11 — internal caching never changes a mask (`Model/Cache.lean`, the mask cache over an abstract row log).
-/
import LlgVerif.Proofs.Cache
namespace LlgVerif

variable {R L M : Type} [DecidableEq L]

/-- every `rollback` keeps at least the initial row (`num_rows ≥ 1` always holds in the parser) -/
def RollbackKeepsRow (ops : List (COp R L)) : Prop :=
  ∀ op ∈ ops, ∀ k ls p, op = COp.rollback k ls p → 0 < k

/-- From a state with at least one row whose cache is consistent (`CacheInv`), on every history of commits
(rows only appended), rollbacks (rows truncated, cache cleared; each keeps the initial row), mask
computations and invalidations, the mask returned by the cached `compute_bias` is the mask a cache-free
engine computes in the same state. -/
theorem cache_transparent (fresh : List R → L → Bool → M) (ops : List (COp R L))
    (s : CState R L M) (hinv : CacheInv fresh s) (hne : s.rows ≠ []) (hk : RollbackKeepsRow ops) :
    (crun fresh true s ops).1 = crunFresh fresh s ops := by
  induction ops generalizing s with
  | nil => rfl
  | cons op ops ih =>
    obtain ⟨c', he, hi, hn⟩ := cstep_spec fresh s op hinv hne (hk op List.mem_cons_self)
    simp only [crun, crunFresh]
    rw [ih _ hi hn fun o ho => hk o (List.mem_cons_of_mem _ ho), he, crunFresh_cache]
    rfl

theorem cacheInv_init (fresh : List R → L → Bool → M) (rows : List R) (ls : L) (p : Bool) :
    CacheInv fresh ({ rows := rows, ls := ls, pending := p, cache := none } : CState R L M) :=
  cacheInv_none fresh _ rfl

/-- Non-vacuity, and why `clear = true` is needed: with `clear = false` (`rollback` keeps the cache
across a truncation, as llguidance did) the history `commit x·a, mask, rollback to row 0,
commit y·a, mask` returns the mask of the `x` context in the `y` context (rows are `Nat` labels,
the mask is the list of labels). -/
example :
    let fresh : List Nat → Nat → Bool → List Nat := fun rows _ _ => rows
    let ops : List (COp Nat Nat) :=
      [.advance [10, 11] 7 true, .mask, .rollback 1 0 false, .advance [20, 21] 7 true, .mask]
    let s0 : CState Nat Nat (List Nat) := { rows := [0], ls := 0, pending := false, cache := none }
    (crun fresh false s0 ops).1 ≠ crunFresh fresh s0 ops ∧
    (crun fresh true s0 ops).1 = crunFresh fresh s0 ops := by
  decide

end LlgVerif
