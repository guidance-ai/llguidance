/-
C18 — stop, end-of-sequence and accepting status are consistent: the stop-sequence controller
(`Model/Stop.lean`).  The Matcher / Constraint state machines are decided by impl-vs-oracle
runs and, for EOS/accepting, by `eos_iff_accepting` of C01.
-/
import LlgVerif.Proofs.StopRun
namespace LlgVerif
open StopCfg

/-- For every non-empty set of stop strings, every vocabulary and every
sequence of text tokens: either no stop string ends anywhere in the decoded text, everything
except a withheld tail has been returned (returned chunks ++ withheld bytes = the text) and the
withheld tail is at least as long as any partial stop string at the end of the text; or the
controller stopped exactly at the first position where a stop string ends and the returned
chunks concatenate to the text before that stop string. -/
theorem stop_output_spec (c : StopCfg) (hne : c.stops.isEmpty = false) (ts : List Nat)
    (hts : ∀ t ∈ ts, TextTok c t) :
    let r := run c init ts
    let all := allBytesOf c ts
    RunInv c r.1 r.2 all ∨ StoppedAt c r.1 r.2 all := by
  have := run_from c hne ts hts [] init [] (runInv_init c)
  simpa using this

/-- Once stopped, every later token returns nothing and changes nothing. -/
theorem nothing_after_stop (c : StopCfg) (s : StopSt) (hs : s.stopped = true) (ts : List Nat) :
    (run c s ts).1.flatten = [] ∧ (run c s ts).2 = s :=
  run_stopped c s hs ts

/-- A stop token ends the run and releases exactly the withheld bytes. -/
theorem stop_token_flushes (c : StopCfg) (s : StopSt) (hs : s.stopped = false) (t : Nat)
    (ht : c.stopTokens.contains t = true) :
    c.commit s t = (s.pending, { s with stopped := true, pending := [] }) := by
  have ht' : t ∈ c.stopTokens := by simpa using ht
  unfold commit; simp [hs, ht']

/-- The truncation at a match never reaches into text that has
already been returned: a stop string ending inside freshly fed bytes `p` starts at most
`chop text` bytes before them. -/
theorem withheld_covers_lookahead (c : StopCfg) (text p : List SB) (hp : p ≠ []) (k : Nat)
    (h : c.matchLen (text ++ p) = some k) : k ≤ c.chop text + p.length :=
  match_reach c text p hp k h

/-- `valid_utf8_len` never exceeds its input (the returned chunk is a prefix of the buffer) -/
theorem validUtf8Len_bound (d : List SB) : validUtf8Len d ≤ d.length := validUtf8Len_le d

/-- Non-vacuity: stop string "st"; tokens "ab", "s", "ta": stops inside the third token and the
returned text is "ab". -/
example :
    let c : StopCfg := { stops := [[115, 116]], stopTokens := [], tokBytes := fun t => if t = 1 then [97, 98] else if t = 2 then [115] else [116, 97] }
    (run c init [1, 2, 3]).1 = [[97, 98], [], []] ∧ (run c init [1, 2, 3]).2.stopped = true := by
  decide

end LlgVerif
