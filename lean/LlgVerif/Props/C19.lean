/-
C19 — special tokens are allowed only where the grammar names them: the token-range arithmetic
(`Model/TokRanges.lean`) and the marker argument over the trie walk of C16.
-/
import LlgVerif.Proofs.TokRanges
import LlgVerif.Props.C16
namespace LlgVerif

/-- For every vocabulary size and every non-empty list of valid
ranges: a token id below `vocab` is in the negated ranges iff it is in none of the given ranges;
and no id at or above `vocab` is in them. -/
theorem negatedRanges_correct (vocab : Nat) (rs out : List TRange)
    (h : negatedRanges? vocab rs = some out) (t : Nat) :
    inRanges out t = true ↔ (t < vocab ∧ inRanges rs t = false) := by
  obtain ⟨hne, hvalid, res, hres, rfl⟩ := negatedRanges?_eq_some h
  obtain ⟨r0, hr0⟩ := List.exists_mem_of_ne_nil rs hne
  have hvpos : 0 < vocab := Nat.zero_lt_of_lt (hvalid r0 hr0).1
  obtain ⟨hsorted, hmem⟩ := sortByStart_spec rs
  rw [inRanges_close, hres, negLoop_spec _ 0 [] _ hsorted (fun r hr => by
    have := hvalid r ((hmem r).mp hr); omega), inRanges_sortByStart]
  exact ⟨fun h => h.elim (fun h => by cases h) fun ⟨_, a, b⟩ => ⟨by omega, b⟩,
    fun ⟨a, b⟩ => .inr ⟨Nat.zero_le _, by omega, b⟩⟩

/-- If the recogniser (a grammar matching text) never accepts the marker
byte `0xFF`, then no token whose bytes start with the marker (a special token) is reported by the
trie walk, whatever the rest of its name spells; only the separate range/EOS paths can add it. -/
theorem no_marker_in_text {S : Type} (r : Rec S) (words : List (List Byte)) (s0 : S)
    (hno : ∀ s, r.step s 0xFF = none) (t : Nat) (rest : List Byte)
    (ht : words[t]? = some (0xFF :: rest)) :
    t ∉ addBias r (flatten (buildTree words)) words.length s0 [] := by
  intro hm
  obtain ⟨w, h1, _, h3⟩ := (walk_eq_filter r words s0 t).mp hm
  rw [ht] at h1
  injection h1 with h1
  subst h1
  simp [runBytes, hno s0] at h3

/-- `inRanges` as a proposition: an id is in a list of inclusive ranges iff one of them holds it -/
theorem ranges_exact (rs : List TRange) (t : Nat) :
    inRanges rs t = true ↔ ∃ r ∈ rs, r.1 ≤ t ∧ t ≤ r.2 := inRanges_iff rs t

/-- Non-vacuity: vocabulary of 10 ids, `<[^2-3,7]>`. -/
example : negatedRanges? 10 [(7, 7), (2, 3)] = some [(0, 1), (4, 6), (8, 9)] := by decide

end LlgVerif
