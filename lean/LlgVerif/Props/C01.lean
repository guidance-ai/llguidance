/-
C01 — the token mask is exactly the set of tokens the engine will accept next (abstract M6 over
M2; `Model/Engine.lean`).  The byte recogniser is a parameter, so the statements hold for every
grammar whose speculative and definitive byte runs agree (that agreement is what the
correspondence and oracle runs check on the implementation).
-/
import LlgVerif.Proofs.Engine
import LlgVerif.Props.C16
namespace LlgVerif
open EngCfg

variable {S : Type}

theorem mem_mask (c : EngCfg S) (s : EngState S) (t : Nat) :
    t ∈ c.mask s ↔ (t = c.eos ∧ c.accepting s.st = true) ∨
      ∃ w, c.words[t]? = some w ∧ w ≠ [] ∧ (runBytes c.recog s.st w).isSome := by
  unfold mask
  split
  · rename_i h; simp only [List.mem_cons, walk_eq_filter, h, and_true]
  · rename_i h; simp only [walk_eq_filter, h, Bool.false_eq_true, and_false, false_or]

/-- For every recogniser, vocabulary (duplicates, empty entries, prefixes),
and state that is not stopped: a non-EOS token id is in the mask computed by the trie walk iff
committing it succeeds. -/
theorem mask_eq_commit (c : EngCfg S) (s : EngState S) (hs : s.stopped = false) (t : Nat)
    (ht : t ≠ c.eos) :
    t ∈ c.mask s ↔ (c.commit s t).isSome := by
  rw [mem_mask, commit_of_ne_eos c s t ht]
  simp only [ht, false_and, false_or, hs, Bool.false_eq_true, tokBytes]
  cases c.words[t]? with
  | none => simp
  | some w => by_cases hw : w = [] <;> simp [hw]

/-- EOS is in the mask exactly when the state is accepting (for an EOS id
that is not also the id of a text token matched by the walk: its vocabulary entry is special). -/
theorem eos_iff_accepting (c : EngCfg S) (s : EngState S)
    (hspecial : ∀ w, c.words[c.eos]? = some w → w = [] ∨ (runBytes c.recog s.st w).isNone) :
    c.eos ∈ c.mask s ↔ c.accepting s.st = true := by
  rw [mem_mask]
  refine ⟨fun h => h.elim And.right fun ⟨w, h1, h2, h3⟩ => ?_, fun h => Or.inl ⟨rfl, h⟩⟩
  rcases hspecial w h1 with h4 | h4
  · exact absurd h4 h2
  · rw [Option.isNone_iff_eq_none.mp h4] at h3; cases h3

/-- `validate` returns `k` such that the first `k` tokens can be
committed one by one and (if `k < |ts|`) the next one cannot. -/
theorem validate_longest_prefix (c : EngCfg S) (s : EngState S) (ts : List Nat) :
    let k := c.validate s ts
    k ≤ ts.length ∧
    (∃ s', (ts.take k).foldlM (fun st t => c.commit st t) s = some s' ∧
      (k < ts.length → c.commit s' (ts[k]!) = none)) := by
  induction ts generalizing s with
  | nil => exact ⟨Nat.le_refl _, s, rfl, fun h => absurd h (Nat.lt_irrefl _)⟩
  | cons t ts ih =>
    simp only [validate]
    cases hc : c.commit s t with
    | none => exact ⟨Nat.zero_le _, s, rfl, fun _ => by simpa using hc⟩
    | some s' =>
      obtain ⟨h1, s'', h2, h3⟩ := ih s'
      simp only [Nat.add_comm 1]
      refine ⟨Nat.succ_le_succ h1, s'', by simpa [hc] using h2, fun hk => ?_⟩
      simpa using h3 (Nat.lt_of_succ_lt_succ hk)

/-- Non-vacuity: vocabulary `a`, `ab`, `b`, special EOS; recogniser for `a b*`. -/
example :
    let c : EngCfg Nat := { recog := ⟨fun q b => if q = 0 ∧ b = 97 then some 1 else if q = 1 ∧ b = 98 then some 1 else none⟩,
                            accepting := fun q => q == 1, words := [[97], [97, 98], [98], [0xFF, 60]], eos := 3 }
    let s0 : EngState Nat := { st := 0, tokens := [], stopped := false }
    (c.commit s0 1).isSome = true ∧ (c.commit s0 2).isSome = false ∧ c.validate s0 [1, 2, 0] = 2 := by
  decide

end LlgVerif
