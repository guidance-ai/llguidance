/-
C12 — rolling back tokens restores exactly the earlier state (truncation arithmetic,
`Model/Cache.lean`; the engine-level statement is decided by impl-vs-oracle runs).
-/
import LlgVerif.Proofs.Rollback
namespace LlgVerif

/-- the state after committing the tokens `cs` and, optionally, a final bare EOS -/
def afterCommits {LS} (v : Vocab) (s : RState LS) (cs : List (Cmt LS)) (e : Option (Nat × List LS)) : RState LS :=
  match e with
  | none => cs.foldl (RState.apply v) s
  | some (t, extra) => (cs.foldl (RState.apply v) s).commitEos t extra

/-- For every state in which the per-byte bookkeeping is aligned, every
sequence of committed tokens — special tokens and end-of-sequence tokens that the grammar consumes
*as tokens* included — optionally followed by the EOS that ends the sequence, and `k` = the number
of tokens: rolling back `k` tokens restores every list exactly; a normal stop is undone.  `hb`: `s` is not
the state just after a bare EOS; `hne`: at least one token or the final EOS. -/
theorem rollback_commits {LS} (v : Vocab) (s : RState LS) (hs : s.WF) (hb : s.bareEos = false)
    (cs : List (Cmt LS)) (hcs : ∀ c ∈ cs, c.WF v) (e : Option (Nat × List LS))
    (hne : cs ≠ [] ∨ e.isSome = true) :
    (afterCommits v s cs e).rollback v (cs.length + (if e.isSome then 1 else 0)) =
      some { s with stopOk := false } := by
  obtain ⟨B, T, Ls, heq, h1, h3⟩ := apply_decomp v cs s
  obtain ⟨w1, _, w3⟩ := hs
  have hs' : ({ s with stopOk := false, bareEos := false } : RState LS) = { s with stopOk := false } := by
    rw [← hb]
  rw [← hs']
  cases e with
  | none =>
    have hne' : cs ≠ [] := hne.resolve_right (by simp)
    simp only [afterCommits, heq, Option.isSome_none, Bool.false_eq_true, ↓reduceIte, Nat.add_zero]
    exact rollback_extension v s w1 w3 (by simpa using hne') h1
      (by simpa [bytesToDrop, hne'] using h3) (by simp)
  | some te =>
    simp only [afterCommits, heq, RState.commitEos, Option.isSome_some, ↓reduceIte, List.append_assoc]
    exact rollback_extension v s w1 w3 (by simp) h1 (by simpa [bytesToDrop] using h3) (by simp)

/-- rolling back zero tokens is the identity; more than were committed is an error -/
theorem rollback_bounds {LS} (v : Vocab) (s : RState LS) :
    s.rollback v 0 = some s ∧ ∀ k, k > s.tokens.length → s.rollback v k = none := by
  constructor
  · simp [RState.rollback]
  · intro k hk
    have : k ≠ 0 := by omega
    simp [RState.rollback, this, hk]

/-- Non-vacuity: tokens 5 (`"ab"`), 300 (special: `\xFF[300]`, 6 bytes), the EOS id 7 consumed *as a token*
(`\xFF[7]`, 4 bytes), then the EOS that ends the sequence. -/
example :
    let v : Vocab := { bytes := fun t => if t = 5 then [97, 98] else if t = 300 then [0xFF, 60, 62] else [], eos := [7] }
    let s : RState Nat := { tokens := [], llmBytes := [], pBytes := [], byteTok := [], lexStack := [0], stopOk := false, bareEos := false }
    (afterCommits v s [⟨5, [1, 2]⟩, ⟨300, [3, 4, 5, 6, 7, 8]⟩, ⟨7, [9, 10, 11, 12]⟩] (some (7, [13]))).rollback v 4 = some s := by
  rfl

end LlgVerif
