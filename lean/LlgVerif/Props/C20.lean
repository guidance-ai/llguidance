/-
C20 — arbitrary input never crashes, corrupts or hangs the engine: the part a model can carry.
The one arithmetic site: the least common multiple of two `multipleOf` values in `u32`.  `Dec.checkedLcm`
(checked arithmetic) is characterised by `lcm_no_overflow_or_error` (`Proofs/DecLcm.lean`);
`Dec.wrappingLcm` models wrapping arithmetic (the release profile without the checks).  Two facts of other models are restated here under
the property's name.  Every loop of every model is a total Lean function whose termination argument is
the code's.  Stack depth, allocation, wall-clock time and panics inside external crates cannot be
exhibited by a model: decided by the child-process runs only.
-/
import LlgVerif.Proofs.DecLcm
import LlgVerif.Proofs.Rollback
import LlgVerif.Props.C16
namespace LlgVerif

/-- `multipleOf 1e-10` and `multipleOf 3`: `checkedLcm` reports an error where `wrappingLcm` yields a
wrong `multipleOf`. -/
example :
    ({ coef := 1, exp := 10 } : Dec).checkedLcm { coef := 3, exp := 0 } = none ∧
    ({ coef := 1, exp := 10 } : Dec).wrappingLcm { coef := 3, exp := 0 } ≠ { coef := 3, exp := 0 } := by
  decide

/-- Non-vacuity: `multipleOf 0.25` and `multipleOf 0.1` combine to `0.5`. -/
example : ({ coef := 25, exp := 2 } : Dec).checkedLcm { coef := 1, exp := 1 } = some { coef := 5, exp := 1 } := by
  decide

/-- the byte count rollback uses equals the bytes commit applied, for every token id (no
arithmetic surprise for large ids): re-export of `tokenLen_eq_decodeRaw_length` -/
theorem token_len_total (v : Vocab) (t : Nat) : v.tokenLen t = (v.decodeRaw t).length :=
  tokenLen_eq_decodeRaw_length v t

/-- a serialised trie is not empty and its first node records the length of the whole as its subtree size
(what the walk's skips rely on): re-export of `flat_wf` -/
theorem walk_progress (t : Tree) (np : Nat) :
    ∃ h : 0 < (ser t np).length, ((ser t np)[0]'h).subtreeSize = (ser t np).length := flat_wf t np

end LlgVerif
