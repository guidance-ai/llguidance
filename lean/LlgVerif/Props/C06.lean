/-
C06 / C07 — the specification S5 the engine's JSON-schema outputs are judged by (C06) and that
decides which generated instances are valid (C07).

The engine's schema compiler is not modelled; what is proved here is that the judge is a sound
reading of the keywords where that is not obvious from its definition:
  * decimal comparison (`minimum`, `maximum` and their exclusive forms) does not depend on the spelling
    of a number (`1.50`, `1.5`, `15e-1`) and is a total preorder on values (`Proofs/JsonOrder.lean`);
  * hence the verdict of the validator on a number instance against `minimum` / `maximum` is invariant
    under respelling (`validate_bounds_spelling`);
  * boolean schemas, `allOf`, `anyOf`, `oneOf` mean constant, conjunction, disjunction, exactly-one.
Not proved: that `multipleOf` and `type: integer` depend on the value only.
-/
import LlgVerif.Proofs.JsonOrder
namespace LlgVerif
namespace Js

theorem validate_bool (root : Json) (f : Nat) (b : Bool) (v : Json) :
    validate root (f + 1) (.bool b) v = b := rfl

theorem validate_allOf (root : Json) (f : Nat) (ss : List Json) (v : Json) :
    validate root (f + 1) (.obj [("allOf", .arr ss)]) v = ss.all (fun s => validate root f s v) := by
  cases v <;> simp [validate, lookup, asNum, asNat]

theorem validate_anyOf (root : Json) (f : Nat) (ss : List Json) (v : Json) :
    validate root (f + 1) (.obj [("anyOf", .arr ss)]) v = ss.any (fun s => validate root f s v) := by
  cases v <;> simp [validate, lookup, asNum, asNat]

theorem validate_oneOf (root : Json) (f : Nat) (ss : List Json) (v : Json) :
    validate root (f + 1) (.obj [("oneOf", .arr ss)]) v =
      ((ss.filter (fun s => validate root f s v)).length == 1) := by
  cases v <;> simp [validate, lookup, asNum, asNat]

/-- numeric keywords: the verdict on `{"minimum": lo, "maximum": hi}` is the value comparison -/
theorem validate_bounds (root : Json) (f : Nat) (lo hi n : Num) :
    validate root (f + 1) (.obj [("minimum", .num lo), ("maximum", .num hi)]) (.num n) =
      (Num.le lo n && Num.le n hi) := by
  simp [validate, lookup, asNum]

/-- … and does not depend on how the instance number is spelled -/
theorem validate_bounds_spelling (root : Json) (f : Nat) (lo hi n n' : Num) (h : Num.eq n n' = true) :
    validate root (f + 1) (.obj [("minimum", .num lo), ("maximum", .num hi)]) (.num n) =
    validate root (f + 1) (.obj [("minimum", .num lo), ("maximum", .num hi)]) (.num n') := by
  rw [validate_bounds, validate_bounds, le_congr_right n n' lo h, le_congr_left n n' hi h]

example : Num.eq ⟨false, 150, -2⟩ ⟨false, 15, -1⟩ = true := by decide
example : Num.lt ⟨true, 125, -3⟩ ⟨false, 0, 0⟩ = true := by decide

end Js
end LlgVerif
