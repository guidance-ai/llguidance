/-
C05 at the level of bytes — the mechanism model M5 (`Model/Lexer.lean`: the lexer's state vector,
greedy / lazy lexeme ends, skip lexemes, `advance_parser` over the Earley rows of M4) accepts only
byte strings of the grammar's language: the string splits into chunks, every lexeme of the set a chunk
was ended with matches the chunk's bytes (regex language of S2, through the checked DFA
certificates), and the compiled grammar derives the sequence of non-skip sets from its start symbol
(`Ey.Der`, the derivation relation of M4).  M5 is tied to the parser state by state on every run
(`lx run`: scanned lexeme sets, lexer-state lexemes, pending flag, accepting flag, allowed bytes).

The valid-prefix property at byte level (`c05_lexer_state_viable`, `c05_bytes_prefix_viable`, which C03
cites): in every reachable state every lexer entry other than the skip lexeme can still be completed,
at both levels.

The converse of soundness is not a theorem of the code: maximal-munch lexing loses strings whose only split
needs a shorter lexeme than the lexer's greedy choice (documented behaviour of llguidance).
-/
import LlgVerif.Proofs.Lexer
import LlgVerif.Props.C05
namespace LlgVerif

/-- **soundness of the byte-level engine**: for every compiled grammar, lexeme table with checked
certificates and byte string — no bound on any of them. -/
theorem c05_bytes_sound (C : Lx.Cfg) (hw : C.wf = true) (hg : C.g.wf = true) (w : List B)
    (h : Lx.accepts C w = true) :
    ∃ cs : List Lx.Chunk, w = Lx.bytesOf cs ∧ (∀ c ∈ cs, ∀ l ∈ c.S, Rx.lang (C.lx l).rx c.w) ∧
      Ey.Der C.g (Lx.nonSkipSets C cs) C.g.start 0 (Lx.nonSkipSets C cs).length := by
  obtain ⟨st, hrun, hacc⟩ := Lx.accepts_iff.mp h
  obtain ⟨st', hfl, hacc⟩ := Lx.isAccepting_iff.mp hacc
  obtain ⟨cs, hwd, hp⟩ := Lx.flush_inv hw (Lx.reach_inv hw hrun) hfl
  rw [hp.rows_eq] at hacc
  exact ⟨cs, hwd, hp.chunks, hp.lexs_eq ▸ Ey.accepting_sound C.g (Ey.wf_of_check C.g hg) st'.lexs hacc⟩

/-- **no entry of a reachable lexer state is dead**: the bytes read end in some `u` (in the proof, the
bytes of the open lexeme; the statement does not say which suffix) such that the regex of every entry
of the lexer state has a match extending `u` -/
theorem c05_lexer_state_viable (C : Lx.Cfg) (hw : C.wf = true) (w : List B) (st : Lx.St)
    (hrun : Lx.run C (Lx.init C) w = some st) :
    ∃ u, u <:+ w ∧ ∀ e ∈ st.ls, ∃ v, Rx.lang (C.lx e.1).rx (u ++ v) := by
  obtain ⟨cs, u, hs⟩ := Lx.reach_inv hw hrun
  exact ⟨u, ⟨_, hs.bytes.symm⟩, fun e he => (hs.tracks.decides hw he).2⟩

/-- **valid-prefix property of the byte-level engine** (the lexer half of "no dead ends", C03): in
every reachable state, every entry of the lexer state other than the skip lexeme is viable at both
levels — some suffix `u` of the bytes read (in the proof, those of the open lexeme) extends to a match of
the lexeme's regex, and the lexeme sets scanned so far followed by this lexeme extend to a lexeme sequence
the compiled grammar accepts (for grammars whose right-hand-side symbols are productive,
`CG.allProductive`, evaluated on every dump).  So no allowed byte leads the lexer into a lexeme the parser
could not use. -/
theorem c05_bytes_prefix_viable (C : Lx.Cfg) (hw : C.wf = true) (hg : C.g.wf = true)
    (hp : C.g.allProductive = true) (w : List B) (st : Lx.St)
    (hrun : Lx.run C (Lx.init C) w = some st) :
    ∃ u, u <:+ w ∧ ∀ e ∈ st.ls, some e.1 ≠ C.skipId →
      (∃ vb, Rx.lang (C.lx e.1).rx (u ++ vb)) ∧ (∃ vs, Ey.Accepts C.g (st.lexs ++ [e.1] :: vs)) := by
  obtain ⟨cs, u, hs⟩ := Lx.reach_inv hw hrun
  obtain ⟨hrows, hal⟩ := Lx.state_entries_allowed C hw w st hrun
  refine ⟨u, ⟨_, hs.bytes.symm⟩, fun e he hne => ⟨(hs.tracks.decides hw he).2, ?_⟩⟩
  obtain ⟨it, hit, hl⟩ := Ey.mem_allowedLexemes.mp ((hal e he).resolve_right hne)
  rw [hrows, Lx.lastRow_runRows] at hit
  exact c05_earley_allowed_lexeme_viable C.g hg hp st.lexs it e.1 hit hl

/-! non-vacuity: `start: A B`, `A: /a+/`, `B: "b"` (lexeme 0 is an unused skip lexeme with an empty
regex); `aab` is accepted by the model, `aa` and `ba` are not -/
def exLexA : Rx := Rx.cat (Rx.set [(97, 97)]) (Rx.star (Rx.set [(97, 97)]))
def exLexB : Rx := Rx.set [(98, 98)]
def exRow (b t e : Nat) : Array Nat := ((List.range 256).map (fun x => if x = b then t else e)).toArray
def exDfaA : Dfa :=
  { states := #[exLexA, Rx.star (Rx.set [(97, 97)]), Rx.empty], trans := #[exRow 97 1 2, exRow 97 1 2, exRow 97 2 2],
    acc := #[false, true, false], live := #[true, true, false], rank := #[1, 0, 0] }
def exDfaB : Dfa :=
  { states := #[exLexB, Rx.eps, Rx.empty], trans := #[exRow 98 1 2, exRow 98 2 2, exRow 98 2 2],
    acc := #[false, true, false], live := #[true, true, false], rank := #[1, 0, 0] }
def exDfaE : Dfa :=
  { states := #[Rx.empty], trans := #[exRow 0 0 0], acc := #[false], live := #[false], rank := #[0] }
def exCfgB : Lx.Cfg :=
  { g := { start := 1
           rhs := #[0, 0, 0, 0, 2, 3, 0, 0]
           lhsOf := #[0, 1]
           syms := #[⟨[], false, none⟩, ⟨[4], false, none⟩, ⟨[], false, some 1⟩, ⟨[], false, some 2⟩] }
    lexemes := #[⟨exDfaE, false, true, false⟩, ⟨exDfaA, false, false, false⟩, ⟨exDfaB, false, false, false⟩]
    skipId := some 0
    initialSkip := true }
theorem exRow_get (b t e : Nat) (x : B) : (exRow b t e)[x.toNat]! = if x.toNat = b then t else e := by
  have := x.toNat_lt
  simp [exRow, this]
/-- Evaluated as it stands, `Dfa.check` of these seven states costs a minute: the kernel walks a
256-element list for every lookup `(exRow ..)[b]!`, several per state and byte.  So the check is first spelt
out with every row read through `exRow_get`; only the derivatives are left to evaluate. -/
theorem exCfgB_wf : exCfgB.wf = true := by
  simp only [Lx.Cfg.wf, Lx.Cfg.lx, Lx.Lexeme.rx, exCfgB, exDfaE, exDfaA, exDfaB, Dfa.check, Dfa.next,
    -- the literal lists and arrays unrolled, so that `exRow_get` meets every row
    List.size_toArray, List.length_cons, List.length_nil, List.range_succ, List.range_zero, List.nil_append,
    List.cons_append, List.all_cons, List.all_nil, Array.getD_eq_getD_getElem?, List.getElem?_toArray,
    List.getElem?_cons_zero, List.getElem?_cons_succ, Option.getD_some, List.getElem!_toArray,
    List.getElem!_cons_zero, List.getElem!_cons_succ, exRow_get]
  decide +kernel
example : exCfgB.wf = true ∧ exCfgB.g.wf = true ∧ Lx.accepts exCfgB [97, 97, 98] = true ∧
    Lx.accepts exCfgB [97, 97] = false ∧ Lx.accepts exCfgB [98, 97] = false :=
  ⟨exCfgB_wf, by decide +kernel⟩

end LlgVerif
