/-
C10 — the slicing optimisation never changes a mask (`Model/Slicer.lean`: `slice_sound` under the
hypothesis `Sound`, that a matched slice holds only allowed tokens).  The second half goes towards that
hypothesis on the models: a containment certificate (`Spec/Contain.lean`) is sound
(`c10_containment_decided`), and in a state of M5 where it holds every string of the slice regex is
accepted (`c10_matched_slice_tokens_accepted`).  No Lean statement concludes `Sound`: that the tokens of
a slice are strings of its regex is read through the hook.
-/
import LlgVerif.Proofs.Slicer
import LlgVerif.Proofs.Contain
import LlgVerif.Proofs.LexerSlice
namespace LlgVerif
open Slice

/-- For every slice tree whose children's token sets are contained in their
parent's, every outcome of the containment tests, and every recogniser state (`allowed`): if each
*matched* slice holds only allowed tokens, the sliced computation yields exactly the tokens the
plain walk over the whole vocabulary yields. -/
theorem slice_sound (mtch allowed : Nat → Bool) (top : Slice) (subsumePossible : Bool)
    (hwf : WFS top) (hs : Sound mtch allowed top) (t : Nat) :
    t ∈ computeBias mtch allowed top subsumePossible ↔ t ∈ walk allowed top.mask [] := by
  cases happ : (apply mtch allowed top []).1 with
  | false => simp [computeBias, happ] -- not applied: the plain walk, with or without the guard
  | true =>
    by_cases hg : (!top.kids.isEmpty && subsumePossible) = true
    · -- the one real case: the slice tree is tried and `apply` reports applied
      simp [computeBias, hg, happ, apply_spec mtch allowed top [] hwf hs t, mem_walk]
    · simp [computeBias, hg]

/-- What `apply` adds for one slice (any accumulator): nothing if it reports
"not applied", otherwise exactly the allowed tokens of the slice. -/
theorem apply_covers (mtch allowed : Nat → Bool) (s : Slice) (acc : List Nat)
    (hwf : WFS s) (hs : Sound mtch allowed s) (t : Nat) :
    t ∈ (apply mtch allowed s acc).2 ↔
      t ∈ acc ∨ ((apply mtch allowed s acc).1 = true ∧ t ∈ s.mask ∧ allowed t = true) :=
  apply_spec mtch allowed s acc hwf hs t

/-- **containment certificates are sound** — what the slicer asks of the lexer (`check_subsume`,
derivre's `is_contained_in_prefixes`): a pair set accepted by `Dfa.containCheck` for the checked
certificates of the slice regex and of a lexeme, started at the lexeme's state after the bytes `u`,
proves that every string of the slice regex continues `u` to a prefix of a match of the lexeme.  Only
this direction is stated: nothing says that a contained regex has an accepted pair set, nor what an
answer `some false` of `Dfa.decideContain` means.  On every run each "contained" answer of the
implementation is re-decided this way (`lx contain`). -/
theorem c10_containment_decided (rs rb : Rx) (ds db : Dfa) (hs : Dfa.check rs ds = true)
    (hb : Dfa.check rb db = true) (u : List B) (pairs : List (Nat × Nat))
    (h : Dfa.containCheck ds db (Dfa.run db 0 u) pairs = true) (w : List B) (hw : Rx.lang rs w) :
    ∃ v, Rx.lang rb (u ++ w ++ v) := by
  have hlive := Dfa.contain_live hs h hw
  rwa [← Dfa.run_append, ← Dfa.viable, (Dfa.dfa_decides hb (u ++ w)).2] at hlive

/-- **from containment to the slicer's hypothesis, through the byte-level engine M5**: in a reachable
state of M5 whose lexer state holds no lazy lexeme (`subsume_possible`), if the slice regex is contained
in the prefixes of what one entry can still match (a checked containment certificate from the entry's
state), then every non-empty string of the slice regex is accepted byte by byte from this state — what the
hypothesis `Sound` of `slice_sound` asks of a token of a matched slice whose bytes are such a string.
(`hskip`: the configuration's skip lexeme carries the skip flag — true of every dumped lexeme table.) -/
theorem c10_matched_slice_tokens_accepted (C : Lx.Cfg) (hw : C.wf = true)
    (hskip : ∀ k, C.skipId = some k → (C.lx k).skip = true) (w0 : List B) (st : Lx.St)
    (hrun : Lx.run C (Lx.init C) w0 = some st) (hnl : Lx.NoLazy C st.ls)
    (rs : Rx) (ds : Dfa) (hs : Dfa.check rs ds = true) (l q : Nat) (hmem : (l, q) ∈ st.ls)
    (pairs : List (Nat × Nat)) (hc : Dfa.containCheck ds (C.lx l).dfa q pairs = true)
    (w : List B) (hne : w ≠ []) (hlang : Rx.lang rs w) : (Lx.run C st w).isSome = true := by
  obtain ⟨_, u, hst⟩ := Lx.reach_inv hw hrun
  have gb := Dfa.good_of_check (Lx.check_of_live hw (hst.tracks l q hmem).live)
  exact Lx.run_of_live C hskip gb w st q hne ⟨hnl, (Lx.state_entries_allowed C hw w0 st hrun).2⟩ hmem
    ((hst.tracks l q hmem).state_eq ▸ (gb.run_state gb.pos u).1) (Dfa.contain_live hs hc hlang)

/-- Non-vacuity: two overlapping child slices under a wildcard top slice; child 0 matched and
sound, child 1 not matched: the hypotheses hold and token 5 (in no child) is reported, 3 is not. -/
example :
    let top := Slice.node 2 [0, 1, 2, 3, 4, 5] [Slice.node 0 [1, 2] [], Slice.node 1 [2, 3] []]
    let allowed : Nat → Bool := fun t => t == 1 || t == 2 || t == 5
    let mtch : Nat → Bool := fun i => i == 0
    5 ∈ computeBias mtch allowed top true ∧ 3 ∉ computeBias mtch allowed top true := by
  intro top allowed mtch
  have hwf : WFS top := WFS.mk _ _ _ (by decide) fun c hc => by
    simp only [List.mem_cons, List.not_mem_nil, or_false] at hc
    rcases hc with rfl | rfl <;> exact WFS.mk _ _ _ nofun nofun
  have hs : Sound mtch allowed top := Sound.mk _ _ _ (by decide) fun c hc => by
    simp only [List.mem_cons, List.not_mem_nil, or_false] at hc
    rcases hc with rfl | rfl <;> exact Sound.mk _ _ _ (by decide) nofun
  simp only [slice_sound mtch allowed top true hwf hs]
  decide

end LlgVerif
