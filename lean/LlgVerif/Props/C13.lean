/-
C13 — fast-forward bytes and tokens are genuinely forced and change nothing (abstract M6).
-/
import LlgVerif.Proofs.Engine
import LlgVerif.Proofs.ListFacts
namespace LlgVerif

variable {S : Type}

theorem mem_probeOrder (b0 : Nat) (b : Byte) : b ∈ probeOrder b0 := by
  unfold probeOrder
  rw [List.mem_map]
  refine ⟨(b.toNat + 256 - b0 % 256) % 256, List.mem_range.mpr (Nat.mod_lt _ (by decide)), ?_⟩
  have hb := UInt8.toNat_lt b
  have h1 : (b0 + (b.toNat + 256 - b0 % 256) % 256) % 256 = b.toNat := by omega
  rw [h1]
  exact UInt8.ofNat_toNat

theorem probeLoop_sound (r : Rec S) (s : S) (l : List Byte) (found : Option Byte) (b : Byte) :
    probeLoop r s l found = some b ↔ found.toList ++ l.filter (fun x => (r.step s x).isSome) = [b] := by
  induction l generalizing found with
  | nil => cases found <;> simp [probeLoop]
  | cons y ys ih =>
    by_cases hy : (r.step s y).isSome = true
    · cases found with
      | none => simp only [probeLoop, hy, ↓reduceIte, ih, List.filter_cons]; rfl
      | some f => simp [probeLoop, hy]
    · simp only [probeLoop, hy, Bool.false_eq_true, ↓reduceIte, ih, List.filter_cons]

/-- A byte reported by the exhaustive probe (whatever byte the probe
starts from) is accepted, is the only accepted byte, and the state is not accepting.  The fast path of
`forcedByte` (`hint = some b`, the lexer's `ForcedByte`) is trusted and not covered. -/
theorem forcedByte_unique (r : Rec S) (accepting : S → Bool) (s : S) (b0 : Nat) (b : Byte)
    (h : forcedByte r accepting s none b0 = some b) :
    accepting s = false ∧ (r.step s b).isSome = true ∧ ∀ x : Byte, (r.step s x).isSome = true → x = b := by
  unfold forcedByte at h
  split at h
  · cases h
  · rename_i hacc
    obtain ⟨-, hb, huniq⟩ := filter_eq_singleton ((probeLoop_sound r s _ none b).mp h)
    exact ⟨by simpa using hacc, hb, fun x hx => huniq x (mem_probeOrder b0 x) hx⟩

theorem forceBytes_spec (r : Rec S) (accepting : S → Bool) (b0 fuel : Nat) (s : S) :
    runBytes r s (forceBytes r accepting b0 fuel s).1 = some (forceBytes r accepting b0 fuel s).2 ∧
    ∀ w sw, runBytes r s w = some sw → accepting sw = true →
      ∃ rest, w = (forceBytes r accepting b0 fuel s).1 ++ rest ∧
        runBytes r (forceBytes r accepting b0 fuel s).2 rest = some sw := by
  induction fuel generalizing s with
  | zero => exact ⟨rfl, fun w sw hw _ => ⟨w, rfl, hw⟩⟩
  | succ fuel ih =>
    cases hf : forcedByte r accepting s none b0 with
    | none => simp only [forceBytes, hf]; exact ⟨rfl, fun w sw hw _ => ⟨w, rfl, hw⟩⟩
    | some b =>
      obtain ⟨hna, hstep, huniq⟩ := forcedByte_unique r accepting s b0 b hf
      obtain ⟨s', hs⟩ := Option.isSome_iff_exists.mp hstep
      simp only [forceBytes, hf, hs]
      obtain ⟨h1, h2⟩ := ih s'
      refine ⟨by rw [runBytes_cons, hs]; exact h1, fun w sw hw hacc => ?_⟩
      cases w with
      | nil => cases hw; rw [hna] at hacc; cases hacc
      | cons x w' =>
        -- the first byte of `w` is accepted, so it is the forced one
        rw [runBytes_cons] at hw
        obtain ⟨sx, hx, hw⟩ := Option.bind_eq_some_iff.mp hw
        obtain rfl : x = b := huniq x (by rw [hx]; rfl)
        rw [hs] at hx
        cases hx
        obtain ⟨rest, e1, e2⟩ := h2 w' sw hw hacc
        exact ⟨rest, by rw [e1]; rfl, e2⟩

/-- The bytes pushed by `force_bytes` are a prefix of
every complete output reachable from the state, and the rest of that output is accepted from the
state reached: forcing changes nothing about what can still be generated. -/
theorem forced_prefix_of_every_completion (r : Rec S) (accepting : S → Bool) (b0 fuel : Nat) (s : S)
    (w : List Byte) (sw : S) (hw : runBytes r s w = some sw) (hacc : accepting sw = true) :
    let f := forceBytes r accepting b0 fuel s
    ∃ rest, w = f.1 ++ rest ∧ runBytes r f.2 rest = some sw :=
  (forceBytes_spec r accepting b0 fuel s).2 w sw hw hacc

/-- the forced bytes are themselves accepted -/
theorem forceBytes_runs (r : Rec S) (accepting : S → Bool) (b0 fuel : Nat) (s : S) :
    runBytes r s (forceBytes r accepting b0 fuel s).1 = some (forceBytes r accepting b0 fuel s).2 :=
  (forceBytes_spec r accepting b0 fuel s).1

theorem ff_tokens_commit (c : EngCfg S) (s : EngState S) (hs : s.stopped = false) (b0 fuel : Nat)
    (ts : List Nat) (hts : TextTokens c ts) (tail : List Byte)
    (hpre : (forceBytes c.recog c.accepting b0 fuel s.st).1 = ts.flatMap c.tokBytes ++ tail) :
    ∃ s', commits c s ts = some s' ∧
      runBytes c.recog s'.st tail = some (forceBytes c.recog c.accepting b0 fuel s.st).2 := by
  have he := forceBytes_runs c.recog c.accepting b0 fuel s.st
  rw [hpre, runBytes_append] at he
  rw [commits_text c ts s hs hts]
  cases hr : runBytes c.recog s.st (ts.flatMap c.tokBytes) with
  | none => rw [hr] at he; cases he
  | some x => rw [hr] at he; exact ⟨_, rfl, he⟩

/-- Tokens whose bytes concatenate to a prefix of the forced bytes can
be committed one after the other (that exactly the remaining forced bytes are then left is
`ff_tokens_commit`).  `hrun` always holds: `forceBytes_runs`. -/
theorem ff_tokens_accepted (c : EngCfg S) (s : EngState S) (hs : s.stopped = false) (b0 fuel : Nat)
    (ts : List Nat) (hts : TextTokens c ts) (tail : List Byte)
    (hpre : (forceBytes c.recog c.accepting b0 fuel s.st).1 = ts.flatMap c.tokBytes ++ tail)
    (hrun : ∃ e, runBytes c.recog s.st (forceBytes c.recog c.accepting b0 fuel s.st).1 = some e) :
    (commits c s ts).isSome = true := by
  obtain ⟨s', h, _⟩ := ff_tokens_commit c s hs b0 fuel ts hts tail hpre
  rw [h]; rfl

-- Non-vacuity: in a state that accepts only the byte `a` and is not accepting, `a` is what the
-- probe reports, from any starting byte.
set_option maxRecDepth 8000 in
example :
    let r : Rec Nat := ⟨fun q b => if q = 0 ∧ b = 97 then some 1 else none⟩
    forcedByte r (fun q => q == 1) 0 none 32 = some 97 ∧ forcedByte r (fun q => q == 1) 0 none 200 = some 97 := by
  decide +kernel

end LlgVerif
