/-
C15 — grammar optimisation preserves the language.

`checkInline G G' R rk prot = true` (the certificate the harness builds from the grammar before and
after `Grammar::optimize` and re-checks with this function on every run) implies that every
sentential form without replaced symbols — in particular every protected symbol (the start symbol
when the caller lists it in `prot`) — derives exactly the same terminal strings in `G'` as in `G`,
for strings of every length.
-/
import LlgVerif.Proofs.Inline
namespace LlgVerif
namespace Cfg
-- the statements carry `[Hashable N]` (as `Spec/Cfg.lean` does throughout); nothing about inlining needs it
set_option linter.unusedSectionVars false

variable {N : Type} [DecidableEq N] [Hashable N]

theorem subst_append (R : RMap N) (α β : List (Sym N)) :
    subst R (α ++ β) = subst R α ++ subst R β := by
  simp [subst, List.flatMap_append]

section
variable (G G' : Gram N) (R : RMap N) (rk : N → Nat) (prot : List N)
variable (hc : checkInline G G' R rk prot = true)
include hc

/-- **C15.**  An accepted certificate means: every form without replaced symbols derives the same
terminal strings before and after the optimisation. -/
theorem inline_preserves (γ : List (Sym N)) (hγ : ∀ a, Sym.nt a ∈ γ → inDom R a = false)
    (w : List B) : DL G γ w ↔ DL G' γ w := by
  have ok := inlineOK_of_check hc
  exact ⟨fun h => subst_id R γ hγ ▸ inline_complete ok γ w h, fun h => inline_sound ok γ w h hγ⟩

/-- protected symbols (captures, token limits, sub-grammar boundaries, start) are kept and keep
their language -/
theorem inline_keeps_protected (a : N) (ha : a ∈ prot) (w : List B) :
    inDom R a = false ∧ (DL G [Sym.nt a] w ↔ DL G' [Sym.nt a] w) := by
  have hd := (inlineOK_of_check hc).kept a ha
  refine ⟨hd, inline_preserves G G' R rk prot hc _ (fun b hb => ?_) w⟩
  cases List.mem_singleton.mp hb
  exact hd
end

/-! non-vacuity: `S → A "b"`, `A → "a"` optimised to `S → "a" "b"` -/
def exGa : Gram Nat := [(0, [Sym.nt 1, Sym.t 98 98]), (1, [Sym.t 97 97])]
def exGb : Gram Nat := [(0, [Sym.t 97 97, Sym.t 98 98])]
example : checkInline exGa exGb [(1, [Sym.t 97 97])] (fun _ => 0) [0] = true := by decide

end Cfg
end LlgVerif
