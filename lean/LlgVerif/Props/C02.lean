/-
C02 — acceptance depends on the bytes, not on how they are split into tokens (abstract M6).
-/
import LlgVerif.Proofs.Engine
namespace LlgVerif

variable {S : Type}

/-- Committing text tokens succeeds iff the recogniser accepts
the concatenation of their bytes, and the recogniser state reached is the one reached by the
bytes. -/
theorem commit_factors_through_bytes (c : EngCfg S) (ts : List Nat) (s : EngState S)
    (hs : s.stopped = false) (hts : TextTokens c ts) :
    ((commits c s ts).isSome ↔ (runBytes c.recog s.st (ts.flatMap c.tokBytes)).isSome) ∧
    (∀ s', commits c s ts = some s' →
        runBytes c.recog s.st (ts.flatMap c.tokBytes) = some s'.st) :=
  ⟨by rw [commits_text c ts s hs hts, Option.isSome_map],
    fun s' h => commits_runBytes c ts s s' (fun t ht => (hts t ht).1) h⟩

/-- For one recogniser and two vocabularies, two token sequences with
equal concatenated bytes are both accepted or both rejected, and leave the same recogniser state
(hence the same accepting flag, forced bytes and byte-level continuations). -/
theorem split_independent (c1 c2 : EngCfg S) (hrec : c1.recog = c2.recog)
    (s1 s2 : EngState S) (hst : s1.st = s2.st) (h1 : s1.stopped = false) (h2 : s2.stopped = false)
    (ts1 ts2 : List Nat) (ht1 : TextTokens c1 ts1) (ht2 : TextTokens c2 ts2)
    (hbytes : ts1.flatMap c1.tokBytes = ts2.flatMap c2.tokBytes) :
    ((commits c1 s1 ts1).isSome ↔ (commits c2 s2 ts2).isSome) ∧
    (∀ a b, commits c1 s1 ts1 = some a → commits c2 s2 ts2 = some b → a.st = b.st) := by
  obtain ⟨a1, a2⟩ := commit_factors_through_bytes c1 ts1 s1 h1 ht1
  obtain ⟨b1, b2⟩ := commit_factors_through_bytes c2 ts2 s2 h2 ht2
  rw [hbytes, hrec, hst] at a1 a2
  refine ⟨a1.trans b1.symm, ?_⟩
  intro a b ha hb
  have := (a2 a ha).symm.trans (b2 b hb)
  injection this

/-- A multi-byte token can be committed exactly when its
bytes, fed as any tokens of another vocabulary over the same recogniser whose bytes concatenate to
the token's (single-byte tokens, say), can all be committed. -/
theorem token_allowed_iff_bytes_allowed (c cb : EngCfg S) (hrec : c.recog = cb.recog)
    (s sb : EngState S) (hst : s.st = sb.st) (h1 : s.stopped = false) (h2 : sb.stopped = false)
    (t : Nat) (ht : t ≠ c.eos) (hb : c.tokBytes t ≠ [])
    (byteToks : List Nat) (hsingle : TextTokens cb byteToks)
    (hdecomp : byteToks.flatMap cb.tokBytes = c.tokBytes t) :
    (c.commit s t).isSome ↔ (commits cb sb byteToks).isSome := by
  have ht1 : TextTokens c [t] := by
    intro x hx; simp at hx; subst hx; exact ⟨ht, hb⟩
  have := (split_independent c cb hrec s sb hst h1 h2 [t] byteToks ht1 hsingle (by simpa using hdecomp.symm)).1
  simpa [commits] using this

/-- Non-vacuity: `ab` as one token vs `a`,`b` as two, recogniser for `ab*`. -/
example :
    let r : Rec Nat := ⟨fun q b => if q = 0 ∧ b = 97 then some 1 else if q = 1 ∧ b = 98 then some 1 else none⟩
    let c1 : EngCfg Nat := { recog := r, accepting := fun q => q == 1, words := [[97, 98], [0xFF]], eos := 1 }
    let c2 : EngCfg Nat := { recog := r, accepting := fun q => q == 1, words := [[97], [98], [0xFF]], eos := 2 }
    let s0 : EngState Nat := { st := 0, tokens := [], stopped := false }
    (commits c1 s0 [0]).isSome = true ∧ (commits c2 s0 [0, 1]).isSome = true := by decide

end LlgVerif
