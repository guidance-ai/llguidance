/-
C08 — numeric bound keywords admit exactly the numbers inside the bounds.

The statements are about the models of `rx_int_range` and `rx_float_range`, which are tied to the Rust
functions by string equality of the printed pattern on every run.  `c08_float_pos`, `_neg`, `_mixed` are
about the outputs of `floatPos` from which `floatBoth` assembles its answer (`floatPos_lang`); the
one-bound statements are cases of `floatGe_nonneg_lang`, `floatGe_lang`, `floatLe_lang`
(`Proofs/FloatSigned.lean`); the `c08_lexi_*` theorems are the fraction-digit helpers on their own, and
`c08_emptiness` is the emptiness test of `Model/NumSat.lean`.  No theorem
covers `multipleOf` patterns, equal bounds or the `f64` handling in `check_number_bounds`: those are
decided by the exact-arithmetic correspondence check only (see DESIGN.md §4) and listed as `partial`
in the evidence.
-/
import LlgVerif.Proofs.IntSigned
import LlgVerif.Proofs.FloatSigned
import LlgVerif.Proofs.NumSat
-- `(10 : Int) ^ 18` in the statement of `intBoth_total` is elaborated through Mathlib's `Monoid.npow`
-- (`Monoid.toNPow`); without this import it would be core's `Int.pow`, another term
import Mathlib.Tactic.Linarith
namespace LlgVerif
open Rx

def InBounds (l r : Option Int) (z : Int) : Prop :=
  (∀ a, l = some a → a ≤ z) ∧ (∀ b, r = some b → z ≤ b)

def AdmitsNegZero : Option Int → Option Int → Prop
  | some l, some r => l < 0 ∧ 0 ≤ r
  | none, none => True
  | _, _ => False

/-- **C08 (integers).**  Whenever `rx_int_range` returns a pattern, the pattern accepts exactly the
canonical decimal spellings of the integers inside the bounds (and `-0`, whose value is inside the
bounds, in the two shapes where the pattern has a sign branch over zero). -/
theorem rxIntRange_correct (l r : Option Int) (p : PR) (h : rxIntRange l r = .ok p) (w : List B) :
    lang p.rx w ↔ (∃ z : Int, InBounds l r z ∧ w = decI z) ∨ (AdmitsNegZero l r ∧ w = 45 :: dec 0) := by
  refine Spells.int_iff (S := fun | some z => InBounds l r z | none => AdmitsNegZero l r) ?_ w
  cases l with
  | none =>
    cases r with
    | none =>
      injection h with h; subst h
      exact intAny_correct.congr fun o _ => by cases o <;> simp [InBounds, AdmitsNegZero]
    | some r => exact (intLe_correct h).congr fun o _ => by cases o <;> simp [InBounds, AdmitsNegZero]
  | some l =>
    cases r with
    | none => exact (intGe_correct h).congr fun o _ => by cases o <;> simp [InBounds, AdmitsNegZero]
    | some r => exact (intBoth_correct h).congr fun o _ => by cases o <;> simp [InBounds, AdmitsNegZero]

/-- no value outside the bounds is ever accepted, whatever its spelling: every accepted string
is a spelling of a number inside the bounds (`-0` has value 0, inside whenever admitted) -/
theorem rxIntRange_sound (l r : Option Int) (p : PR) (h : rxIntRange l r = .ok p) (w : List B)
    (hw : lang p.rx w) : ∃ z : Int, InBounds l r z ∧ (w = decI z ∨ (z = 0 ∧ w = 45 :: dec 0)) := by
  rcases (rxIntRange_correct l r p h w).mp hw with ⟨z, hz, hw⟩ | ⟨ha, hw⟩
  · exact ⟨z, hz, Or.inl hw⟩
  · refine ⟨0, ?_, Or.inr ⟨rfl, hw⟩⟩
    match l, r, ha with
    | none, none, _ => exact ⟨fun _ h => (nomatch h), fun _ h => (nomatch h)⟩
    | some l, some r, ha =>
      exact ⟨fun _ h => by cases h; exact Int.le_of_lt ha.1, fun _ h => by cases h; exact ha.2⟩

/-- `rx_int_range` with both bounds returns a pattern for all ordered bounds of magnitude below 10^18 -/
theorem intBoth_total (l r : Int) (hle : l ≤ r) (hl : -(10 : Int) ^ 18 < l) (hr : r < (10 : Int) ^ 18) :
    ∃ p, intBoth l r = .ok p := by
  have hd : ∀ n : Nat, (n : Int) < (10 : Int) ^ 18 → numDigits n ≤ 18 := fun n hn =>
    (numDigits_le_iff (by omega)).mpr (by exact_mod_cast hn)
  fun_cases intBoth l r
  case case1 => omega
  case case2 _ _ hm => unfold i64Min at hm; omega
  case case3 _ _ _ _ e he =>
    obtain ⟨a, ha⟩ := nnRange_total (-r).toNat (-l).toNat (by omega) (hd _ (by omega))
    rw [ha] at he; cases he
  case case4 | case5 => exact ⟨_, rfl⟩
  case case6 _ _ _ _ hx =>
    obtain ⟨a, ha⟩ := nnRange_total 0 (-l).toNat (by omega) (hd _ (by omega))
    obtain ⟨b, hb⟩ := nnRange_total 0 r.toNat (by omega) (hd _ (by omega))
    exact (hx a b ha hb).elim
  case case7 => exact nnRange_total l.toNat r.toNat (by omega) (hd _ (by omega))

example : ∃ p, intBoth (-12) 345 = .ok p := intBoth_total _ _ (by decide) (by decide) (by decide)
example : decI (-12) = [45, 49, 50] := by
  simp [decI, dec, digitB]
example : InBounds (some (-12)) (some 345) 7 := by simp [InBounds]

/-! `fracLE d x` / `fracLT d x` is the order of the fractions `0.d`, `0.x`; by `fracLE_iff_scaled` it is
the numeric order of `0.d × 10^n`. -/

/-- **C08 (lower fraction bound).** `lexi_x_to_9(x, incl)` accepts exactly the digit strings `d` with
`0.x ≤ 0.d` (`<` when exclusive), for every trimmed digit string `x`. -/
theorem c08_lexi_x_to_9 (x : List Nat) (incl : Bool) (hx : AllDig x) (hn : NTZ x) :
    DigLang (lexiXTo9 x incl).rx (fun d => if incl then fracLE x d else fracLT x d) :=
  lexiXTo9_lang x incl hx hn

/-- **C08 (upper fraction bound).** `lexi_0_to_x(x, incl)` accepts exactly the non-empty digit strings
`d` with `0.d ≤ 0.x` (`<` when exclusive), and does not fail on a trimmed `x` (non-empty when exclusive). -/
theorem c08_lexi_0_to_x (x : List Nat) (incl : Bool) (hx : AllDig x) (hn : NTZ x)
    (hne : incl = true ∨ x ≠ []) :
    ∃ p, lexi0ToX x incl = .ok p ∧
      DigLang p.rx (fun d => d ≠ [] ∧ (if incl then fracLE d x else fracLT d x)) := by
  obtain ⟨p, hp⟩ := lexi0ToX_total x incl hn hne
  exact ⟨p, hp, lexi0ToX_lang hp hx hn⟩

/-- **C08 (both fraction bounds, same integer part).** `lexi_range(ld, rd, li, ri)` on different, equally
long digit strings accepts exactly the non-empty `d` with `0.ld ≤ 0.d ≤ 0.rd` (strict where a flag is off). -/
theorem c08_lexi_range (ld rd : List Nat) (li ri : Bool) (p : PR) (h : lexiRange ld rd li ri = .ok p)
    (hne : ld ≠ rd) (hl : AllDig ld) (hr : AllDig rd) :
    DigLang p.rx (fun d => d ≠ [] ∧ LowerB li ld d ∧ UpperB ri d rd) :=
  lexiRange_lang h hne hl hr

/-- **C08 (decimal bounds, `0 ≤ left < right`).**  The pattern accepts exactly the plain decimal
literals `ip` / `ip.fd` (any number of fraction digits) whose value `v` satisfies
`left ≤ v ≤ right` (strict where a flag is off): shorter spellings, trailing zeros and the bare
integer are inside exactly when their value is. -/
theorem c08_float_pos (l r : FB) (li ri : Bool) (p : PR) (h : floatPos l r li ri = .ok p)
    (hl : AllDig l.fd) (hln : NTZ l.fd) (hr : AllDig r.fd) (hrn : NTZ r.fd)
    (hlt : l.ip < r.ip ∨ (l.ip = r.ip ∧ fracLT l.fd r.fd)) :
    LitLang p.rx (fun ip fd => geB li ip fd l.ip l.fd ∧ leB ri ip fd r.ip r.fd) :=
  litLang_iff.mpr (floatPos_lang h hl hln hr hrn hlt)

/-- **C08 (both bounds negative).**  What `floatBoth` answers in this case is `(-P)` with `P` the pattern
of the mirrored positive range, and the statement is about that pattern: the accepted strings are `-`
followed by a literal whose magnitude lies between `|right|` and `|left|`. -/
theorem c08_float_neg (l r : FB) (li ri : Bool) (p : PR)
    (h : floatPos r.negate l.negate ri li = .ok p)
    (hl : AllDig l.fd) (hln : NTZ l.fd) (hr : AllDig r.fd) (hrn : NTZ r.fd)
    (hlt : r.ip < l.ip ∨ (r.ip = l.ip ∧ fracLT r.fd l.fd)) (w : List B) :
    lang (cat minus p.rx) w ↔ ∃ ip fd, AllDig fd ∧ w = 45 :: (dec ip ++ fracBytes fd) ∧
      geB ri ip fd r.ip r.fd ∧ leB li ip fd l.ip l.fd := by
  rw [((floatPos_lang h hr hrn hl hln hlt).negLit fun x hx => hx.1).lit_iff w]
  simp [FB.negate]

/-- **C08 (left < 0 < right).**  About the alternation `floatBoth` puts together from its two `floatPos`
calls.  Negative part: `-` and a literal of magnitude in `(0, |left|]`; non-negative part: a literal
with value in `[0, right]`. -/
theorem c08_float_mixed (l r : FB) (li ri : Bool) (np pp : PR)
    (hn : floatPos FB.zero l.negate false li = .ok np) (hp : floatPos FB.zero r true ri = .ok pp)
    (hl : AllDig l.fd) (hln : NTZ l.fd) (hr : AllDig r.fd) (hrn : NTZ r.fd)
    (hl0 : 0 < l.ip ∨ (0 = l.ip ∧ fracLT [] l.fd)) (hr0 : 0 < r.ip ∨ (0 = r.ip ∧ fracLT [] r.fd))
    (w : List B) :
    lang (altsRx [cat minus np.rx, pp.rx]) w ↔
      (∃ ip fd, AllDig fd ∧ w = 45 :: (dec ip ++ fracBytes fd) ∧
        (0 < ip ∨ (0 = ip ∧ fracLT [] fd)) ∧ leB li ip fd l.ip l.fd) ∨
      (∃ ip fd, AllDig fd ∧ w = dec ip ++ fracBytes fd ∧ leB ri ip fd r.ip r.fd) := by
  have h1 := (floatPos_lang hn allDig_nil trivial hl hln hl0).negLit
    fun x hx => hx.1
  have h2 := floatPos_lang hp allDig_nil trivial hr hrn hr0
  rw [(h1.alts_cons (Spells.alts_one h2)).lit_iff w]
  simp [FB.negate, geB_zero_excl, geB_zero_incl]

/-- **C08 (only a lower decimal bound, `left ≥ 0`).** -/
theorem c08_float_ge (l : FB) (li : Bool) (p : PR) (h : floatGe l li = .ok p)
    (hneg : l.neg = false) (hl : AllDig l.fd) (hln : NTZ l.fd) :
    LitLang p.rx (fun ip fd => geB li ip fd l.ip l.fd) :=
  litLang_iff.mpr (floatGe_nonneg_lang h (by simp [FB.isNeg, hneg]) hl hln)

/-- **C08 (only an upper decimal bound, `right > 0`).** -/
theorem c08_float_le (r : FB) (ri : Bool) (p : PR) (h : floatLe r ri = .ok p)
    (hneg : r.neg = false) (hr0 : 0 < r.ip ∨ (0 = r.ip ∧ fracLT [] r.fd))
    (hr : AllDig r.fd) (hrn : NTZ r.fd) (w : List B) :
    lang p.rx w ↔
      (∃ ip fd, AllDig fd ∧ w = 45 :: (dec ip ++ fracBytes fd) ∧ (0 < ip ∨ (0 = ip ∧ fracLT [] fd))) ∨
      (∃ ip fd, AllDig fd ∧ w = dec ip ++ fracBytes fd ∧ leB ri ip fd r.ip r.fd) := by
  rw [((floatLe_lang h fun _ => ⟨hr, hrn⟩).congr fun x _ => FB.le_iff ri r x).lit_iff w]
  simp [FB.isNeg, hneg, isZero_false_iff]

/-- **C08 (only a lower decimal bound, `left < 0`).**  `-` and a literal of positive magnitude `≤ |left|`
(`<` when exclusive), or any non-negative literal. -/
theorem c08_float_ge_neg (l : FB) (li : Bool) (p : PR) (h : floatGe l li = .ok p)
    (hneg : l.neg = true) (hz : l.isZero = false) (hl : AllDig l.fd) (hln : NTZ l.fd)
    (hl0 : 0 < l.ip ∨ (0 = l.ip ∧ fracLT [] l.fd)) (w : List B) :
    lang p.rx w ↔
      (∃ ip fd, AllDig fd ∧ w = 45 :: (dec ip ++ fracBytes fd) ∧
        (0 < ip ∨ (0 = ip ∧ fracLT [] fd)) ∧ leB li ip fd l.ip l.fd) ∨
      (∃ ip fd, AllDig fd ∧ w = dec ip ++ fracBytes fd) := by
  rw [((floatGe_lang h hl hln).congr fun x _ => FB.ge_iff li l x).lit_iff w]
  simp [FB.isNeg, hneg, hz, isZero_false_iff]

/-- **C08 (only an upper decimal bound, `right < 0`).**  `-` and a literal of magnitude `≥ |right|`. -/
theorem c08_float_le_neg (r : FB) (ri : Bool) (p : PR) (h : floatLe r ri = .ok p)
    (hneg : r.neg = true) (hz : r.isZero = false) (hr : AllDig r.fd) (hrn : NTZ r.fd) (w : List B) :
    lang p.rx w ↔ ∃ ip fd, AllDig fd ∧ w = 45 :: (dec ip ++ fracBytes fd) ∧ geB ri ip fd r.ip r.fd := by
  rw [((floatLe_lang h fun _ => ⟨hr, hrn⟩).congr fun x _ => FB.le_iff ri r x).lit_iff w]
  simp only [FB.isNeg, hneg, hz, Bool.not_false, Bool.and_self, forall_const, true_and, reduceCtorEq,
    false_and, and_false, exists_false, or_false]
  exact exists_congr fun ip => exists_congr fun fd => and_congr_right fun _ => and_congr_right fun _ =>
    and_iff_right_of_imp fun h => not_zero_of_geB (x := ⟨true, ip, fd⟩) h hz

/-- **C08 (only an upper decimal bound, `right = 0`).**  The negative literals of positive magnitude and,
for an inclusive bound, every spelling of zero (`0`, `0.0`, `0.00`, ...). -/
theorem c08_float_le_zero (r : FB) (ri : Bool) (p : PR) (h : floatLe r ri = .ok p)
    (hz : r.isZero = true) (w : List B) :
    lang p.rx w ↔
      (∃ ip fd, AllDig fd ∧ w = 45 :: (dec ip ++ fracBytes fd) ∧ (0 < ip ∨ (0 = ip ∧ fracLT [] fd))) ∨
      (ri = true ∧ ∃ fd, (fd = [] ∨ (fd ≠ [] ∧ AllZero fd)) ∧ w = dec 0 ++ fracBytes fd) := by
  rw [((floatLe_lang h fun h => absurd hz (by simp [h])).congr fun x _ => FB.le_iff ri r x).lit_iff w]
  simp only [FB.isNeg, hz, Bool.not_true, Bool.and_false, Bool.false_eq_true, false_imp_iff, and_true,
    true_and, reduceCtorEq, false_and, false_or, or_false, isZero_false_iff]
  refine or_congr_right ?_
  simp only [leB_zero ri ⟨false, _, _⟩ r hz, FB.isZero_iff]
  constructor
  · rintro ⟨ip, fd, -, hw, hri, rfl, hfd⟩
    exact ⟨hri, fd, Classical.or_iff_not_imp_left.mpr fun hne => ⟨hne, hfd⟩, hw⟩
  · rintro ⟨hri, fd, hq, hw⟩
    have hfd : AllZero fd := hq.elim (fun e => e ▸ allZero_nil) And.right
    exact ⟨0, fd, fun a ha => by rw [hfd a ha]; omega, hw, hri, rfl, hfd⟩

/-- **C08 (empty combinations).**  With bounds and `multipleOf` brought to a common decimal scale
(for integers the step is `lcm(multipleOf, 1)`), `hasMult` says "not empty" exactly when some
multiple of the step satisfies both bounds — the question `check_number_bounds` answers before a
number schema is compiled. -/
theorem c08_emptiness (lo : Int) (lex : Bool) (hi : Int) (hex : Bool) (step : Int) (hs : 0 < step) :
    hasMult lo lex hi hex step = true ↔
      ∃ z, step ∣ z ∧ (lo < z ∨ (lo = z ∧ lex = false)) ∧ (z < hi ∨ (z = hi ∧ hex = false)) :=
  hasMult_iff lo lex hi hex step hs

/-! non-vacuity: `maximum 0.15` (digits [1,5], inclusive): `0.1`, `0.15`, `0.150`, `0.09` are inside, `0.2` is not -/
example : fracLE [1] [1, 5] ∧ fracLE [1, 5, 0] [1, 5] ∧ fracLE [0, 9] [1, 5] ∧ ¬ fracLE [2] [1, 5] := by
  simp [fracLE]
example : NTZ [1, 5] ∧ AllDig [1, 5] := by
  refine ⟨by simp [NTZ], ?_⟩
  intro a ha; simp at ha; omega

end LlgVerif
