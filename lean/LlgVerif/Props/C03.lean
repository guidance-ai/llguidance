/-
C03 — allowed tokens never lead into a dead end (abstract engine M6).

`NoDeadStep`: the byte recogniser never steps into a state from which no accepting state can be
reached (in the implementation: the lexer drops regex derivatives with empty language, rows only
list lexemes some item can scan).  Under that hypothesis and a byte-complete vocabulary, every
state reached through committed tokens is live, a live non-accepting state has a non-empty mask,
and a finite token sequence leads from it to an accepting state.  The harness checks the
hypothesis' observable consequences on the real engine at every state of its walks (mask
non-empty or accepting; a completion is found by search).
-/
import LlgVerif.Props.C01
namespace LlgVerif
open EngCfg

variable {S : Type}

def Live (c : EngCfg S) (st : S) : Prop :=
  ∃ w st', runBytes c.recog st w = some st' ∧ c.accepting st' = true

def NoDeadStep (c : EngCfg S) : Prop :=
  ∀ st b st', c.recog.step st b = some st' → Live c st'

def ByteComplete (c : EngCfg S) : Prop := ∀ b : Byte, ∃ t, t ≠ c.eos ∧ c.words[t]? = some [b]

theorem commit_live (c : EngCfg S) (hnd : NoDeadStep c) (s s' : EngState S) (t : Nat)
    (ht : t ≠ c.eos) (h : c.commit s t = some s') : Live c s'.st := by
  obtain ⟨_, hb, hrun, _⟩ := commit_some ht h
  obtain ⟨st0, b0, hstep⟩ := runBytes_last c.recog s.st _ hb _ hrun
  exact hnd st0 b0 _ hstep

theorem commit_byte (c : EngCfg S) (s : EngState S) (hs : s.stopped = false) (t : Nat)
    (ht : t ≠ c.eos) (b : Byte) (hw : c.words[t]? = some [b]) :
    c.commit s t = (c.recog.step s.st b).map fun st' =>
      { s with st := st', tokens := s.tokens ++ [t] } := by
  rw [commit_of_ne_eos c s t ht]
  simp only [tokBytes, hw, hs, Option.getD_some, Bool.false_eq_true, reduceCtorEq, or_self,
    ↓reduceIte, runBytes_cons]
  cases c.recog.step s.st b <;> rfl

/-- **no empty mask.**  A live, non-accepting, not stopped state allows some non-EOS token. -/
theorem live_mask_nonempty (c : EngCfg S) (hbc : ByteComplete c) (s : EngState S)
    (hs : s.stopped = false) (hl : Live c s.st) (hna : c.accepting s.st = false) :
    ∃ t, t ≠ c.eos ∧ t ∈ c.mask s := by
  obtain ⟨w, st', hrun, hacc⟩ := hl
  cases w with
  | nil => cases hrun; rw [hacc] at hna; cases hna
  | cons b w =>
    obtain ⟨t, ht, hw⟩ := hbc b
    rw [runBytes_cons] at hrun
    obtain ⟨s1, hstep, -⟩ := Option.bind_eq_some_iff.mp hrun
    exact ⟨t, ht, (mask_eq_commit c s hs t ht).mpr (by rw [commit_byte c s hs t ht b hw, hstep]; rfl)⟩

/-- commit a list of tokens one after the other: `commits` (`Proofs/Engine.lean`) in recursive form -/
def commitAll (c : EngCfg S) : EngState S → List Nat → Option (EngState S)
  | s, [] => some s
  | s, t :: ts => (c.commit s t).bind (fun s' => commitAll c s' ts)

/-- **a completion exists.**  From a live state some finite sequence of (single-byte) tokens is
accepted token by token and ends in an accepting state. -/
theorem live_has_completion (c : EngCfg S) (hbc : ByteComplete c) (s : EngState S)
    (hs : s.stopped = false) (hl : Live c s.st) :
    ∃ ts s', commitAll c s ts = some s' ∧ c.accepting s'.st = true ∧ s'.stopped = false := by
  obtain ⟨w, st', hrun, hacc⟩ := hl
  induction w generalizing s with
  | nil => cases hrun; exact ⟨[], s, rfl, hacc, hs⟩
  | cons b w ih =>
    obtain ⟨t, ht, hw⟩ := hbc b
    rw [runBytes_cons] at hrun
    obtain ⟨s1, hstep, hrun⟩ := Option.bind_eq_some_iff.mp hrun
    obtain ⟨ts, s', h1, h2, h3⟩ := ih { s with st := s1, tokens := s.tokens ++ [t] } hs hrun
    exact ⟨t :: ts, s', by rw [commitAll, commit_byte c s hs t ht b hw, hstep]; exact h1, h2, h3⟩

inductive Reach (c : EngCfg S) (s0 : EngState S) : EngState S → Prop where
  | refl : Reach c s0 s0
  | step {s s' t} : Reach c s0 s → t ≠ c.eos → c.commit s t = some s' → Reach c s0 s'

theorem reach_not_stopped (c : EngCfg S) (s0 s : EngState S) (h0 : s0.stopped = false)
    (h : Reach c s0 s) : s.stopped = false := by
  induction h with
  | refl => exact h0
  | step _ ht hc _ => obtain ⟨-, -, -, h⟩ := commit_some ht hc; exact h

/-- **C03.**  If the recogniser never steps into a dead state, the start state is live and not stopped and
the vocabulary covers every byte, then every state reachable through committed non-EOS tokens is accepting or
has a non-empty mask, and can be completed by a finite token sequence to an accepting state. -/
theorem no_dead_end (c : EngCfg S) (hnd : NoDeadStep c) (hbc : ByteComplete c) (s0 s : EngState S)
    (h0 : s0.stopped = false) (hl0 : Live c s0.st) (hr : Reach c s0 s) :
    (c.accepting s.st = true ∨ ∃ t, t ≠ c.eos ∧ t ∈ c.mask s) ∧
    (∃ ts s', commitAll c s ts = some s' ∧ c.accepting s'.st = true ∧ s'.stopped = false) := by
  have hs := reach_not_stopped c s0 s h0 hr
  have hl : Live c s.st := by
    cases hr with
    | refl => exact hl0
    | step _ ht hc => exact commit_live c hnd _ _ _ ht hc
  refine ⟨?_, live_has_completion c hbc s hs hl⟩
  cases hacc : c.accepting s.st with
  | true => exact Or.inl rfl
  | false => exact Or.inr (live_mask_nonempty c hbc s hs hl hacc)

/-! non-vacuity: the recogniser of `a*b` (states 0, 1) with the vocabulary of all bytes -/
def exRec : Rec Nat := ⟨fun s b => if s = 0 ∧ b = 97 then some 0 else if s = 0 ∧ b = 98 then some 1 else none⟩
def exCfg : EngCfg Nat :=
  { recog := exRec, accepting := fun s => s == 1, words := (List.range 256).map (fun i => [UInt8.ofNat i]), eos := 256 }
example : NoDeadStep exCfg := by
  intro st b st' h
  simp only [exCfg, exRec] at h
  split at h
  · injection h with h; subst h
    exact ⟨[98], 1, by simp [exCfg, exRec, runBytes], rfl⟩
  · split at h
    · injection h with h; subst h
      exact ⟨[], 1, rfl, rfl⟩
    · cases h

end LlgVerif
