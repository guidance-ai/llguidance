/-
C16 — vocabulary handling matches a naive model (M1 `Model/Svob.lean`, M2 `Model/Trie.lean`).
-/
import LlgVerif.Proofs.SvobRange
import LlgVerif.Proofs.TriePaths
namespace LlgVerif

variable {S : Type}

/-- The trie built by `TokTrie::from` has a token-carrying path `(w, id)`
exactly for the non-empty vocabulary entries `words[id] = w` (duplicates included, as separate
nodes); in particular every id maps back to its bytes. -/
theorem token_roundtrip (words : List (List Byte)) (w : List Byte) (x : Nat) :
    (w, some x) ∈ pathsKids (buildTree words).kids ↔ (words[x]? = some w ∧ w ≠ []) := by
  simp only [buildTree, Tree.kids, mem_paths_foldl, pathsKids, List.not_mem_nil, false_or,
    mem_sortWords, enumFrom_eq_zipIdx, List.mk_mem_zipIdx_iff_le_and_getElem?_sub, Nat.zero_le, Nat.sub_zero, true_and]

/-- (Empty start.)  For every vocabulary (duplicates, empty entries, prefixes,
any bytes), every recogniser and every recogniser state: the branch-free DFS walk with pop counts
over the serialised trie reports token `x` iff `x` is a non-empty vocabulary entry whose bytes the
recogniser accepts one after the other. -/
theorem walk_eq_filter (r : Rec S) (words : List (List Byte)) (s0 : S) (x : Nat) :
    x ∈ addBias r (flatten (buildTree words)) words.length s0 [] ↔
      ∃ w, words[x]? = some w ∧ w ≠ [] ∧ (runBytes r s0 w).isSome := by
  simp only [addBias_flatten, List.mem_filter, List.mem_reverse, mem_specKids, decide_eq_true_eq]
  constructor
  · rintro ⟨⟨w, tk, hm, hr, hx⟩, hne⟩
    cases tk with
    | none => exact absurd hx hne
    | some t =>
      cases hx
      exact ⟨w, ((token_roundtrip words w t).mp hm).1, ((token_roundtrip words w t).mp hm).2, hr⟩
  · rintro ⟨w, h1, h2, hr⟩
    exact ⟨⟨w, some x, (token_roundtrip words w x).mpr ⟨h1, h2⟩, hr, rfl⟩,
      Nat.ne_of_lt (List.getElem?_eq_some_iff.mp h1).1⟩

/-- After the walk (and the removal of the fake slot) no id ≥ vocab is reported. -/
theorem no_id_ge_vocab (r : Rec S) (words : List (List Byte)) (s0 : S) (x : Nat)
    (h : x ∈ addBias r (flatten (buildTree words)) words.length s0 []) : x < words.length := by
  obtain ⟨w, h1, _, _⟩ := (walk_eq_filter r words s0 x).mp h
  exact (List.getElem?_eq_some_iff.mp h1).1

/-- After the final `pop_bytes(next_pop)` the recogniser stack is the one
the walk started with (so `trie_finished` sees exactly one element). -/
theorem walk_restores_stack (r : Rec S) (t : Tree) (defl : Nat) (s0 : S) :
    let res := walkLoop r (flatten t) (ser t 0).length defl 1 0 [s0] []
    res.2.1.drop res.1 = [s0] := by
  obtain ⟨np', st', hw, hd⟩ := walk_root r t defl s0
  simp only [hw]; exact hd

/-- Every serialised subtree records its own length (≥ 1) as `subtree_size`. -/
theorem flat_wf (t : Tree) (np : Nat) :
    ∃ h : 0 < (ser t np).length, ((ser t np)[0]'h).subtreeSize = (ser t np).length :=
  ⟨ser_length_pos t np, ser_subtreeSize t np (ser_length_pos t np)⟩

/-- Non-vacuity: a vocabulary with a duplicate, an empty entry and a prefix pair; recogniser
accepting only strings of `a`s: the duplicate id 2 is reported, `ab` (id 1) is not. -/
example :
    let r : Rec Unit := ⟨fun _ b => if b = 97 then some () else none⟩
    let words : List (List Byte) := [[97], [97, 98], [97], [], [97, 97]]
    2 ∈ addBias r (flatten (buildTree words)) words.length () [] ∧
    1 ∉ addBias r (flatten (buildTree words)) words.length () [] := by
  intro r words
  constructor
  · exact (walk_eq_filter r words () 2).mpr ⟨[97], rfl, by simp, by decide⟩
  · intro h
    obtain ⟨w, h1, _, h3⟩ := (walk_eq_filter r words () 1).mp h
    have : w = [97, 98] := by simpa [words] using h1.symm
    subst this
    revert h3; decide

open Svob in
/-- `set`, `negated`, `set_all`, `allow_range`, `or`, `and`, `sub`, `or_minus`,
`to_list` and `alloc` of `SimpleVob`, read through `get` (membership), are the corresponding operations
on sets of naturals.  For `set` and `allow_range` a clause says exactly when the operation fails (the Rust
assert / out-of-range indexing); the binary operations are described where they succeed.  (The other
operations of `Model/Svob.lean` — `new`, `alloc_ones`, `resize`, `set_from`, `trim_trailing_zeros`, `alloc_with_capacity`, and
the read-only `get?`, `is_zero`, `and_is_zero`, `num_set`, `iter`, `first_bit_set*`, `to_bin_string` —
have no clause here.) -/
theorem svob_ops_refine_sets :
    (∀ (v v' : Svob) i val, v.set? i val = some v' → ∀ j, v'.get j = if j = i then val else v.get j) ∧
    (∀ (v : Svob) i val, (v.set? i val).isSome ↔ i / 32 < v.data.length) ∧
    (∀ (v : Svob), v.WF → ∀ i, (negated v).get i = (decide (i < v.size) && !v.get i)) ∧
    (∀ (v : Svob) val i, (setAll v val).get i = (val && decide (i < v.size) && decide (i / 32 < v.data.length))) ∧
    (∀ (v r : Svob) s e, v.allowRange? s e = some r →
        e < v.size ∧ ∀ j, r.get j = (v.get j || (decide (s ≤ j) && decide (j ≤ e)))) ∧
    (∀ (v : Svob), v.WF → ∀ s e, (v.allowRange? s e).isSome ↔ e < v.size) ∧
    (∀ (v o r : Svob), v.or? o = some r → ∀ j, r.get j = (v.get j || (decide (j / 32 < v.data.length) && o.get j))) ∧
    (∀ (v o r : Svob), v.and? o = some r → ∀ j, r.get j = (v.get j && (o.get j || !decide (j / 32 < o.data.length)))) ∧
    (∀ (v o r : Svob), v.sub? o = some r → ∀ j, r.get j = (v.get j && !o.get j)) ∧
    (∀ (v o m r : Svob), v.orMinus? o m = some r → o.data.length = v.data.length → m.data.length = v.data.length →
        ∀ j, r.get j = (v.get j || (o.get j && !m.get j))) ∧
    (∀ (v : Svob) l, v.toList? = some l → l.Pairwise (· < ·) ∧ ∀ i, i ∈ l ↔ (i < v.size ∧ v.get i = true)) ∧
    (∀ size i, (alloc size).get i = false) :=
  ⟨fun _ _ _ _ h => (set?_spec h).2.2,
   set?_isSome,
   get_negated_wf,
   get_setAll,
   fun _ _ _ _ h => (allowRange?_spec h).2.2,
   allowRange?_isSome,
   fun _ _ _ h => (or?_spec h).2.2,
   fun _ _ _ h => (and?_spec h).2.2,
   fun _ _ _ h => (sub?_spec h).2.2,
   fun _ _ _ _ h h1 h2 => (orMinus?_spec h h1 h2).2.2,
   fun _ _ h => ⟨toList?_sorted h, toList?_spec h⟩,
   get_alloc⟩

open Svob in
/-- `negated` and `set_all(true)` leave no bit at or above `size`. -/
theorem excess_bits_clear (v : Svob) :
    (negated v).NoBitGe v.size ∧ (setAll v true).NoBitGe v.size := by
  constructor
  · intro i hi
    rw [get_negated]
    have : ¬ i < v.size := by omega
    simp [this]
  · intro i hi
    rw [get_setAll]
    have : ¬ i < v.size := by omega
    simp [this]

/-- Non-vacuity: a range crossing two word boundaries. -/
example : ((Svob.alloc 100).allowRange? 30 70).isSome = true := by decide

end LlgVerif
