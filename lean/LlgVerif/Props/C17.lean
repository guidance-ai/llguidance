/-
C17 — the C API stays inside caller buffers (model M13, `ffi_par.rs:54-91`, `ffi.rs:1671-1696`).
-/
import LlgVerif.Proofs.Ffi
namespace LlgVerif
open Svob

/-- C17 (copy arithmetic), for every destination length: for a mask `m` that holds no bit at or
above `vocab` (the walk reports no id at or above `vocab`: `no_id_ge_vocab`, C16; no theorem links
that id list to the bits of the mask) and an EOS id below `vocab`:
the copy reads only words of the engine's mask, writes exactly `d` words, sets only bits of real
token ids, reproduces the mask on the common prefix, and zero-fills the rest. -/
theorem parCopy_in_bounds (m : Svob) (vocab d eos : Nat) (addEos : Bool)
    (hnb : m.NoBitGe vocab) (heos : eos < vocab) :
    let r := parCopy (some m) d addEos eos
    r.wordsRead ≤ m.data.length ∧ r.wordsRead ≤ d ∧ r.dest.length = d ∧
    (∀ t, vocab ≤ t → bitOf r.dest t = false) ∧
    (∀ t, t ≠ eos ∨ addEos = false →
        bitOf r.dest t = (decide (t / 32 < min m.data.length d) && m.get t)) ∧
    (addEos = true → eos / 32 < d → bitOf r.dest eos = true) := by
  intro r
  refine ⟨Nat.min_le_left _ _, Nat.min_le_right _ _, length_parCopy_dest .., fun t ht => ?_,
    fun t ht => ?_, fun ha he => ?_⟩
  · have : t ≠ eos := by omega
    simp only [r, bitOf_parCopy, hnb t ht, this, decide_false, Bool.and_false, Bool.or_false]
  · rw [bitOf_parCopy]
    rcases ht with ht | ht <;> simp only [ht, decide_false, Bool.and_false, Bool.false_and, Bool.or_false]
  · simp only [r, bitOf_parCopy, ha, he, decide_true, Bool.and_self, Bool.or_true]

/-- No engine mask (`sample_mask = None`): the destination is all zero except a possible EOS bit. -/
theorem parCopy_none (d eos : Nat) (addEos : Bool) :
    let r := parCopy none d addEos eos
    r.wordsRead = 0 ∧ r.dest.length = d ∧
    (∀ t, t ≠ eos ∨ addEos = false → bitOf r.dest t = false) := by
  rw [parCopy_none_eq]
  obtain ⟨h1, _, h3, _, h5, _⟩ := parCopy_in_bounds ⟨[], 0⟩ (eos + 1) d eos addEos
    (fun i _ => get_of_le _ i (Nat.zero_le _)) (Nat.lt_succ_self _)
  exact ⟨Nat.le_zero.mp h1, h3, fun t ht => (h5 t ht).trans (by simp)⟩

/-- `llg_matcher_compute_mask_into`: succeeds exactly when the caller's byte length is the
advertised mask size; then it reads `n ≤ storage` words and writes exactly `byteLen / 4` words,
which are the first `ceil(vocab/32)` words of the mask; otherwise nothing is written. -/
theorem computeMaskInto_exact_size (m : Svob) (vocab byteLen : Nat)
    (hst : (vocab + 31) / 32 ≤ m.data.length) :
    (∀ d, computeMaskInto? m vocab byteLen = some d →
        byteLen = 4 * ((vocab + 31) / 32) ∧ d.length * 4 = byteLen ∧ d.length ≤ m.data.length ∧
        ∀ t, bitOf d t = (decide (t / 32 < (vocab + 31) / 32) && m.get t)) ∧
    (byteLen ≠ 4 * ((vocab + 31) / 32) → computeMaskInto? m vocab byteLen = none) ∧
    (byteLen = 4 * ((vocab + 31) / 32) → (computeMaskInto? m vocab byteLen).isSome) := by
  simp only [computeMaskInto?, hst, true_and]
  refine ⟨fun d h => ?_, fun h => if_neg h, fun h => by rw [if_pos h]; rfl⟩
  rw [Option.ite_none_right_eq_some, Option.some.injEq] at h
  obtain ⟨hb, rfl⟩ := h
  refine ⟨hb, ?_, ?_, fun t => bitOf_take ..⟩
  · rw [List.length_take, Nat.min_eq_left hst, hb, Nat.mul_comm]
  · rw [List.length_take]; exact Nat.min_le_right ..

/-- Non-vacuity: a concrete mask of 33 bits over two words meets the hypotheses. -/
example : ({ data := [0x80000001#32, 0x1#32], size := 33 } : Svob).NoBitGe 33 := by
  intro i hi
  by_cases h : 2 ≤ i / 32
  · exact get_of_le _ i h
  · have h1 : i / 32 = 1 := by omega
    have : i % 32 ≠ 0 := by omega
    simp [Svob.get, Svob.wordAt, h1, BitVec.getLsbD_one, this]

/-- Refutation of the code before its repair (`parCopyBits`), which took the number of words to copy from the mask's
length in bits: vocab 1000 → mask of 1001 bits in 32 words; a
destination of 33 words makes the copy read a 33rd word that does not exist. -/
example : parCopyBits (some (Svob.alloc 1001)) 33 false 0 = none := by decide

example : (parCopy (some (Svob.alloc 1001)) 33 false 0).wordsRead = 32 := by decide

end LlgVerif
