/-
C05 — a Lark context-free grammar admits exactly the grammar's language.

Two parts.  First the *specification* the engine is compared with on every run (S4): a chart
recogniser for arbitrary CFGs (empty productions, left/right/mutual recursion, ambiguity) whose
answers are proved to coincide with the declarative derivation relation `DL`, and the prefix-grammar
construction proved to capture "is a prefix of some derivable string"; there the tie is
impl-vs-proved-spec (see DESIGN.md).  Then the theorems about the model of the engine's Earley rows
over the compiled grammar (M4): the rows, when they pass the certificate check `Ey.rowsClosed`, are
exactly the Earley item sets `Ey.Want`, whence
soundness and completeness of acceptance, the valid-prefix property and the exact lexeme mask.
-/
import LlgVerif.Proofs.CfgComplete
import LlgVerif.Proofs.CfgPrefix
import LlgVerif.Proofs.EarleyComplete
import LlgVerif.Proofs.EarleyPure
import LlgVerif.Proofs.EarleyViable
namespace LlgVerif
namespace Cfg

abbrev G0 := Gram Nat

/-- both start forms are charted: `(s, false)` decides acceptance, `(s, true)` viability of prefixes -/
def specChart (G : G0) (s : Nat) (w : List B) (fuel : Nat) : Option (Chart (Nat × Bool)) :=
  chart? (preG G) [[Sym.nt (s, false)], [Sym.nt (s, true)]] w fuel

def acceptsC (c : Chart (Nat × Bool)) (s : Nat) (p : List B) : Bool := c.contains ([Sym.nt (s, false)], p)
def viableC (c : Chart (Nat × Bool)) (s : Nat) (p : List B) : Bool := c.contains ([Sym.nt (s, true)], p)

theorem specChart_contains {G : G0} {s : Nat} {w : List B} {fuel : Nat} {c : Chart (Nat × Bool)}
    (h : specChart G s w fuel = some c) (f : Bool) {p : List B} (hpw : p <:+: w) :
    c.contains ([Sym.nt (s, f)], p) = true ↔ DL (preG G) [Sym.nt (s, f)] p :=
  chart_correct (preG G) _ w fuel c h _ p (forms_start (by cases f <;> simp)) hpw

/-- **C05, complete strings.**  The spec decider says "accepted" for an infix `p` of the charted
input exactly when the grammar derives `p` from the start symbol. -/
theorem spec_accepts (G : G0) (s : Nat) (w : List B) (fuel : Nat) (c : Chart (Nat × Bool))
    (hp : allProductive G = true) (h : specChart G s w fuel = some c) (p : List B) (hpw : p <:+: w) :
    acceptsC c s p = true ↔ DL G [Sym.nt s] p :=
  (specChart_contains h false hpw).trans (preG_same G hp s p)

/-- **C05, prefixes.**  For a grammar all of whose symbols are productive (`hp`), the spec decider says
"viable" for `p` exactly when `p` is a prefix of some string the grammar derives. -/
theorem spec_viable (G : G0) (s : Nat) (w : List B) (fuel : Nat) (c : Chart (Nat × Bool))
    (hp : allProductive G = true) (h : specChart G s w fuel = some c) (p : List B) (hpw : p <:+: w) :
    viableC c s p = true ↔ ∃ v, DL G [Sym.nt s] (p ++ v) :=
  (specChart_contains h true hpw).trans (preG_prefix G hp s p)

/-- a token (byte string `tok`) is allowed after `p` iff `p ++ tok` is still a prefix of a derivable
string (again under `hp`) — the statement the mask is compared with -/
theorem token_allowed_cfg (G : G0) (s : Nat) (w : List B) (fuel : Nat) (c : Chart (Nat × Bool))
    (hp : allProductive G = true) (h : specChart G s w fuel = some c) (p tok : List B)
    (hpw : (p ++ tok) <:+: w) :
    viableC c s (p ++ tok) = true ↔ ∃ v, DL G [Sym.nt s] (p ++ tok ++ v) :=
  spec_viable G s w fuel c hp h (p ++ tok) hpw

/-! non-vacuity: `S → "a" S "b" | ε` is productive and derives `ab` -/
def exG : G0 := [(0, [Sym.t 97 97, Sym.nt 0, Sym.t 98 98]), (0, [])]
example : allProductive exG = true := by decide
example : DL exG [Sym.nt 0] [97, 98] := by
  have h0 : DL exG [Sym.nt 0] [] := DL_single (β := []) (by simp [exG]) DL.nil
  have h1 : DL exG [Sym.t 97 97, Sym.nt 0, Sym.t 98 98] [97, 98] :=
    DL.t (by decide) (by decide) (DL_append h0 (DL.t (by decide) (by decide) DL.nil))
  exact DL_single (by simp [exG]) h1

end Cfg

/-! The Earley rows (mechanism model M4).  `Ey.runRows` mirrors `scan` / `process_agenda` over the
compiled grammar dump; on every run the items of every row of the real parser are compared with it.
Soundness of the model: every item has a derivation of the scanned lexemes, so an accepting last row
means the start symbol derives the input (relative to the grammar's rules and nullable flags; the flags
are checked to be closed under the rules when the dump is loaded). -/

theorem c05_earley_rows_sound (g : Ey.CG) (hw : g.wf = true) (lexs : List (List Nat)) :
    Ey.RowsOK g lexs (Ey.runRows g lexs) :=
  Ey.runRows_ok g (Ey.wf_of_check g hw) lexs

theorem c05_earley_accept_sound (g : Ey.CG) (hw : g.wf = true) (lexs : List (List Nat))
    (h : Ey.accepting g (Ey.runRows g lexs) = true) : Ey.Der g lexs g.start 0 lexs.length :=
  Ey.accepting_sound g (Ey.wf_of_check g hw) lexs h

/-! `Ey.Want` is the set of Earley items given by the inference rules (start, prediction, nullable
advance, scan, completion over earlier rows).  Rows that pass the executable certificate check
`Ey.rowsClosed` — evaluated by the driver on the rows it computed, so the fuel of the worklist is
not trusted — hold every such item; and the item set is complete for derivations, the completion the
code skips (items that start in the current row) being covered by the nullable advance because the
flags are closed under the rules (`CG.nullableClosed`). -/

theorem c05_earley_rows_complete (g : Ey.CG) (lexs : List (List Nat))
    (hc : Ey.rowsClosed g lexs (Ey.runRows g lexs) = true) (j : Nat) (it : Ey.Item)
    (hwant : Ey.Want g lexs j it) (hj : j ≤ lexs.length) : it ∈ (Ey.runRows g lexs).getD j [] :=
  Ey.closed_complete (Ey.closed_of_check g lexs _ hc) hwant
    (by rw [Ey.runRows_len]; omega)

/-! `Ey.Accepts g lexs` (Proofs/Earley.lean): a rule of the start symbol derives all of `lexs`.
`Ey.Seq`/`Ey.Der` read a nullable flag as an ε-rule of the symbol — `CGrammar` drops empty rules and
keeps only the flag ("we handle the empty rule separately via is_nullable field"), so this *is* the
compiled grammar's derivation relation. -/

/-- **C05 at the level of the parser's rows**: the last row is accepting exactly when the compiled
grammar derives the scanned lexemes. -/
theorem c05_earley_accept_iff (g : Ey.CG) (hw : g.wf = true) (hn : g.nullableClosed = true)
    (lexs : List (List Nat)) (hc : Ey.rowsClosed g lexs (Ey.runRows g lexs) = true) :
    Ey.accepting g (Ey.runRows g lexs) = true ↔ Ey.Accepts g lexs :=
  ⟨Ey.accepts_of_accepting g (Ey.wf_of_check g hw) lexs,
   Ey.accepting_complete g (Ey.wf_of_check g hw) (Ey.nullClosed_of_check g hn) lexs _
     (Ey.closed_of_check g lexs _ hc) (Ey.runRows_len g lexs)⟩

/-- `Ey.Accepts` with derivations by the rules alone -/
def Ey.AcceptsP (g : Ey.CG) (lexs : List (List Nat)) : Prop :=
  ∃ r ∈ (g.sym g.start).rules, ∃ p, Ey.SeqP g lexs r p 0 lexs.length ∧ g.atDot p = 0

/-- `c05_earley_accept_iff` for grammars whose flags are all derived (`CG.nullableSound`).  `CGrammar`
drops every empty rule, so among the engine's dumps these are the grammars without nullable symbols. -/
theorem c05_earley_accept_iff_pure (g : Ey.CG) (hw : g.wf = true) (hn : g.nullableClosed = true)
    (hs : g.nullableSound = true) (lexs : List (List Nat))
    (hc : Ey.rowsClosed g lexs (Ey.runRows g lexs) = true) :
    Ey.accepting g (Ey.runRows g lexs) = true ↔ Ey.AcceptsP g lexs := by
  rw [c05_earley_accept_iff g hw hn lexs hc]
  simp only [Ey.Accepts, Ey.AcceptsP, Ey.seq_iff_seqP (Ey.nullSound_of_check g hs)]

/-- rows that pass the certificate check are exactly the Earley item sets, up to row `|lexs|` -/
theorem c05_earley_rows_exact (g : Ey.CG) (lexs : List (List Nat))
    (hc : Ey.rowsClosed g lexs (Ey.runRows g lexs) = true) (j : Nat) (hj : j ≤ lexs.length) (it : Ey.Item) :
    it ∈ (Ey.runRows g lexs).getD j [] ↔ Ey.Want g lexs j it :=
  ⟨Ey.runRows_want g lexs, fun h => c05_earley_rows_complete g lexs hc j it h hj⟩

/-- **valid-prefix property of the rows** (the parser-level content of "no dead ends"): when every
symbol that occurs in a right-hand side is productive, the lexemes read before any row that holds an
item extend to an input the compiled grammar accepts. -/
theorem c05_earley_rows_viable (g : Ey.CG) (hw : g.wf = true) (hp : g.allProductive = true)
    (lexs : List (List Nat)) (j : Nat) (hj : j ≤ lexs.length) (it : Ey.Item)
    (hit : it ∈ (Ey.runRows g lexs).getD j []) : ∃ v, Ey.Accepts g (lexs.take j ++ v) :=
  Ey.want_viable (Ey.wf_of_check g hw) (Ey.allProd_of_check g hp) (Ey.runRows_want g lexs hit)

/-- **a lexeme the last row allows can be continued**: if an item of the last row has a lexeme `l`
after its dot, then `lexs` followed by `l` extends to an accepted input -/
theorem c05_earley_allowed_lexeme_viable (g : Ey.CG) (hw : g.wf = true) (hp : g.allProductive = true)
    (lexs : List (List Nat)) (it : Ey.Item) (l : Nat)
    (hit : it ∈ (Ey.runRows g lexs).getD lexs.length [])
    (hl : (g.sym (g.atDot it.1)).lexeme = some l) : ∃ v, Ey.Accepts g (lexs ++ [l] :: v) := by
  have h : Ey.Want g (lexs ++ [[l]]) (lexs.length + 1) (it.1 + 1, it.2) :=
    Ey.Want.scan (Ey.want_append [[l]] (Ey.runRows_want g lexs hit)) hl
      (by simp [List.getD_eq_getElem?_getD]) (by simp)
  obtain ⟨v, hv⟩ := Ey.want_viable (Ey.wf_of_check g hw) (Ey.allProd_of_check g hp) h
  exact ⟨v, by simpa [List.take_of_length_le] using hv⟩

/-- **the lexeme-level mask of the rows is exact**: a lexeme is allowed by the last row exactly when
`lexs` followed by it extends to an input the compiled grammar accepts. -/
theorem c05_earley_lexeme_mask_exact (g : Ey.CG) (hw : g.wf = true) (hn : g.nullableClosed = true)
    (hp : g.allProductive = true) (lexs : List (List Nat))
    (hc : Ey.rowsClosed g lexs (Ey.runRows g lexs) = true) (l : Nat) :
    l ∈ Ey.allowedLexemes g ((Ey.runRows g lexs).getD lexs.length []) ↔
      ∃ v, Ey.Accepts g (lexs ++ [l] :: v) := by
  rw [Ey.mem_allowedLexemes]
  constructor
  · rintro ⟨it, hit, hl⟩
    exact c05_earley_allowed_lexeme_viable g hw hp lexs it l hit hl
  · rintro ⟨v, hv⟩
    obtain ⟨p, i, l', hwant, hl, hm⟩ := Ey.accepted_scans g (Ey.wf_of_check g hw)
      (Ey.nullClosed_of_check g hn) lexs [l] v hv
    obtain rfl := List.mem_singleton.mp hm
    exact ⟨(p, i), c05_earley_rows_complete g lexs hc _ _ hwant (Nat.le_refl _), hl⟩

/-! non-vacuity: `S → a S | ε` as a compiled grammar (symbol 0 is the null symbol, rules start at
multiples of 4), input `a a`: all checks hold and the last row accepts -/
def exCG : Ey.CG :=
  { start := 1
    rhs := #[0, 0, 0, 0, 2, 1, 0, 0, 0, 0, 0, 0]
    lhsOf := #[0, 1, 1]
    syms := #[⟨[], false, none⟩, ⟨[4, 8], true, none⟩, ⟨[], false, some 0⟩] }
example : exCG.wf = true ∧ exCG.nullableClosed = true ∧ exCG.nullableSound = true ∧ exCG.allProductive = true ∧
    Ey.rowsClosed exCG [[0], [0]] (Ey.runRows exCG [[0], [0]]) = true ∧
    Ey.accepting exCG (Ey.runRows exCG [[0], [0]]) = true := by decide

end LlgVerif
