/-
C09 — repetition counts and length bounds are exact (M11 `Model/Repeat.lean`, and S2 `rep`).
-/
import LlgVerif.Proofs.Repeat
import LlgVerif.Proofs.RegexRep
namespace LlgVerif
open GExp

/-- For every block size `K ≥ 1` and all `m ≤ n`: the grammar built by
`GrammarBuilder::repeat(elt, m, Some(n))` derives exactly the repetition counts `m..n`;
`repeat(elt, m, None)` derives exactly the counts `≥ m`; `m > n` is the Rust `assert!`. -/
theorem repeat_counts (K : Nat) (hK : 1 ≤ K) (m : Nat) :
    (∀ n g c, repeat? K elt m (some n) = some g → (counts g c ↔ m ≤ c ∧ c ≤ n)) ∧
    (∀ g c, repeat? K elt m none = some g → (counts g c ↔ m ≤ c)) ∧
    (∀ n, m > n → repeat? K elt m (some n) = none) := by
  refine ⟨fun n g c hg => (span_repeat hasUnit_elt K hK m n g hg).one c, fun g c hg => ?_,
    fun n hmn => by simp [repeat?, hmn]⟩
  cases hg
  exact (counts_atLeast hasUnit_elt K m c).trans
    ⟨fun ⟨j, hj, hc⟩ => by omega, fun hc => ⟨c, hc, by omega⟩⟩

/-- the intermediate builders, for any fuel and any element of unit count `u`: `repeat_exact` for every
`K`, `at_most` for `K ≥ 1` -/
theorem repeatExact_counts (K fuel : Nat) (e : GExp) (u : Nat) (h : HasUnit e u) (n c : Nat) :
    counts (repeatExact K fuel e n) c ↔ c = n * u :=
  counts_repeatExact h K fuel n c

theorem atMost_counts (K fuel : Nat) (hK : 1 ≤ K) (e : GExp) (u : Nat) (h : HasUnit e u) (n c : Nat) :
    counts (atMost K fuel e n) c ↔ ∃ j, j ≤ n ∧ c = j * u :=
  (span_atMost h K fuel hK n c).trans
    ⟨fun ⟨j, _, hj⟩ => ⟨j, hj⟩, fun ⟨j, hj⟩ => ⟨j, Nat.zero_le _, hj⟩⟩

/-- regex-level repetition `r{m,n}` / `r{m,}` (S2) -/
theorem regex_repeat_counts (r : Rx) (m : Nat) (n : Option Nat) (w : List B) :
    Rx.lang (Rx.rep r m n) w ↔
      ∃ c, m ≤ c ∧ (match n with | some n => c ≤ max m n | none => True) ∧ Rx.pow (Rx.lang r) c w :=
  Rx.rep_counts r m n w

/-- Non-vacuity, K = 4: `elt{3,14}` goes through `at_most 11` (11 < 3·4: the list branch),
`elt{0,13}` through `at_most 13` (the factored branch); both are defined. -/
example : (repeat? 4 elt 3 (some 14)).isSome = true ∧ (repeat? 4 elt 0 (some 13)).isSome = true := by
  decide

end LlgVerif
