/-
C06 / C07 — the schema IR and `Schema::intersect` (model M7, `Model/Schema.lean`).

`allOf`, `anyOf`, `oneOf`, `enum`, `const` and sibling keywords are all compiled by intersecting IR
nodes (`parser/src/json/schema.rs`).  The theorem: on the fragment without `oneOf` (M7 has every node
kind including objects; `$ref` and `patternProperties` are not modelled) the node `intersect` returns means exactly the
conjunction of its operands — for every JSON value, every recursion budget, every pair of nodes —
and `normalize` does not change the meaning.  `multipleOf` values are combined by the code's checked
least common multiple, which is shown to have exactly the common multiples (`c06_lcm_multiples`).
`is_verifiably_disjoint_from` never declares two nodes with a common instance disjoint
(`c06_disjoint_sound`, every node kind), which justifies the last step of the `oneOf` arm of `normalize`:
`oneOf valid` → `anyOf valid` for pairwise disjoint options (`c06_oneof_disjoint_is_anyof`).  The flattening of
nested `oneOf`s before that step does not keep the meaning in general (`oneOf [oneOf [null, null], null]` accepts
`null`, its flattening does not), which is why the theorems about `intersect` and `normalize` live on the
`oneOf`-free fragment `Ok`.
The model is tied to the code on every run: the hook `verif_intersect` prints the IR of two schema
documents and of their intersection, and `Sch.intersect` must print the same result (also on the
`oneOf` cases, where `normalize` consults `is_verifiably_disjoint_from`, and on the refusals).
-/
import LlgVerif.Proofs.SchemaIntersect
import LlgVerif.Proofs.SchemaDisj
namespace LlgVerif
open Sch Js

/-- **the meaning of `Schema::intersect`.**  Whenever `intersect` returns a node, it accepts exactly the
values both operands accept.  `Ok` is the fragment this is proved on: no `oneOf` anywhere, `required`
without repetition, and `items` / `additionalProperties` stored as `any` where the flag says they are absent;
the result is in it again. -/
theorem c06_intersect_sat (ρ : String → String → Bool) (f : Nat) (a b r : Sch.Sch)
    (ha : Ok a = true) (hb : Ok b = true) (h : intersect Dec.checkedLcm f a b = some r) :
    Ok r = true ∧ ∀ v, sat ρ isMultDec r v = (sat ρ isMultDec a v && sat ρ isMultDec b v) :=
  have m := intersect_good lcmOK_checked f h ha hb
  ⟨m.ok, m.sat_eq⟩

/-- `normalize` keeps the meaning on the fragment `Ok`, where only its `anyOf` arm does anything -/
theorem c06_normalize_sat (ρ : String → String → Bool) (s : Sch.Sch) (hs : Ok s = true) :
    Ok (normalize s) = true ∧ ∀ v, sat ρ isMultDec (normalize s) v = sat ρ isMultDec s v :=
  normalize_sat s hs

/-- the multiples of `checked_lcm(a, b)` are the common multiples of `a` and `b` -/
theorem c06_lcm_multiples (a b d : Dec) (h : Dec.checkedLcm a b = some d) (x : Num) :
    isMultDec d x = (isMultDec a x && isMultDec b x) :=
  lcmOK_checked a b d h x

/-- `is_verifiably_disjoint_from` is sound, for every pair of nodes (`oneOf` and objects included) -/
theorem c06_disjoint_sound (ρ : String → String → Bool) (a b : Sch.Sch) (h : disj a b = true) (v : Json) :
    ¬ (sat ρ isMultDec a v = true ∧ sat ρ isMultDec b v = true) :=
  fun hab => disjoint_sound h v hab.1 hab.2

/-- the last step of the `oneOf` arm of `normalize` (not the flattening before it): a `oneOf` whose options are
pairwise verifiably disjoint means the same as the `anyOf` of its options -/
theorem c06_oneof_disjoint_is_anyof (ρ : String → String → Bool) (l : SchL) (h : pairwiseDisj l = true) (v : Json) :
    sat ρ isMultDec (.oneOf l) v = sat ρ isMultDec (.anyOf l) v := by
  simp only [sat]
  exact pairwise_count v l h

/-! non-vacuity: `{"type":"integer","minimum":0}` ∧ `{"type":"number","maximum":10}`, also under an
`anyOf`; 3 is in, 11 and `null` are out; and 1.5 is a multiple of `lcm(0.5, 0.75)` while 1 is not -/
private def nA : NumS :=
  { minimum := some ⟨false, 0, 0⟩, maximum := none, exclusiveMinimum := none, exclusiveMaximum := none, integer := true, multipleOf := none }
private def nB : NumS :=
  { minimum := none, maximum := some ⟨false, 10, 0⟩, exclusiveMinimum := none, exclusiveMaximum := none, integer := false, multipleOf := none }
def exA : Sch.Sch := .number nA
def exB : Sch.Sch := .number nB
example : Ok exA = true ∧ Ok exB = true ∧ Ok (.anyOf (.cons exA (.cons .null .nil))) = true := by decide
example : (intersect Dec.checkedLcm 2 exA exB).map (fun r => (sat (fun _ _ => true) isMultDec r (.num ⟨false, 3, 0⟩),
    sat (fun _ _ => true) isMultDec r (.num ⟨false, 11, 0⟩))) = some (true, false) := by decide
example : (intersect Dec.checkedLcm 2 (.anyOf (.cons exA (.cons .null .nil))) exB).map (fun r =>
    (sat (fun _ _ => true) isMultDec r (.num ⟨false, 3, 0⟩), sat (fun _ _ => true) isMultDec r .null)) = some (true, false) := by decide
example : Dec.checkedLcm ⟨5, 1⟩ ⟨75, 2⟩ = some ⟨15, 1⟩ ∧ isMultDec ⟨15, 1⟩ ⟨false, 15, -1⟩ = true ∧
    isMultDec ⟨15, 1⟩ ⟨false, 1, 0⟩ = false := by decide

end LlgVerif
