/-
C14 — clones are independent and results do not depend on scheduling (`Model/Shared.lean`).
Mutual exclusion, memory safety and panics of real threads are Rust's and `Mutex`'s business and
are not in the model; the sticky error flag under exhausted limits is outside the claim.
-/
import LlgVerif.Proofs.Shared
namespace LlgVerif

variable {C : Type} [DecidableEq C]

/-- For every number of clones, every initial table in which the
clones' ids are valid, and every interleaving of atomic operations: the state each clone ends in
denotes exactly what a private engine computes from that clone's own operations, in order. -/
theorem memo_schedule_independent (delta : C → Nat → C) (sched : List (Nat × Nat))
    (st : List C × List Nat)
    (hwf : ∀ (j q : Nat), st.2[j]? = some q → ∃ c, st.1[q]? = some c) (j : Nat) (c0 : C)
    (hj : (views st)[j]? = some (some c0)) :
    (views (sharedRun delta st sched))[j]? = some (some (privateRun delta c0 j sched)) := by
  induction sched generalizing st c0 with
  | nil => exact hj
  | cons op ops ih =>
    rw [privateRun_cons]
    apply ih _ (sharedStep_wf delta st op hwf)
    rw [sharedStep_views delta st op hwf j, hj]
    split <;> rfl

/-- the table only grows: ids handed out earlier keep their content (`append_state` only appends) -/
theorem table_append_only (delta : C → Nat → C) (st : List C × List Nat) (op : Nat × Nat)
    (hwf : ∀ (j q : Nat), st.2[j]? = some q → ∃ c, st.1[q]? = some c) :
    ∃ ext, (sharedStep delta st op).1 = st.1 ++ ext :=
  sharedStep_table delta st op

/-- Non-vacuity: two clones over one table, interleaved; contents are naturals, `delta c b = 2c+b`. -/
example :
    let delta : Nat → Nat → Nat := fun c b => 2 * c + b
    let st : List Nat × List Nat := ([1], [0, 0])
    views (sharedRun delta st [(0, 1), (1, 0), (0, 0), (1, 1)]) = [some 6, some 5] := by decide

end LlgVerif
