/-
C01 + C05 end to end on the mechanism models: the token-level engine (M6: trie walk, commit, EOS)
instantiated with the byte-level engine M5 (lexer + Earley rows) as its recogniser.  This is the
engine the driver runs for `elx` requests, whose masks are compared with the implementation's on
every run over multi-byte vocabularies.

`c01_m5_mask_eq_commit`: while it has not stopped, a token other than EOS is in its mask exactly if it
can be committed (instance of `mask_eq_commit`, no hypothesis about the recogniser left open).
`c01_m5_generation_sound`: whatever sequence of tokens is committed from the initial state, if EOS
is then in the mask, the concatenated bytes of the tokens are a string of the grammar's language
(chunks matching the regexes of their lexeme sets, set sequence derived by the compiled grammar) —
for every well-formed configuration (`C.wf`, `C.g.wf`), every vocabulary whose EOS entry is special
(`hspecial`) and every sequence of tokens other than EOS.
-/
import LlgVerif.Props.C01
import LlgVerif.Props.C05Bytes
namespace LlgVerif

def m5Engine (C : Lx.Cfg) (words : List (List Byte)) (eos : Nat) : EngCfg Lx.St :=
  { recog := { step := fun s b => Lx.push C s b }, accepting := fun s => Lx.isAccepting C s, words := words, eos := eos }

def m5Init (C : Lx.Cfg) : EngState Lx.St := { st := Lx.init C, tokens := [], stopped := false }

theorem c01_m5_mask_eq_commit (C : Lx.Cfg) (words : List (List Byte)) (eos : Nat) (s : EngState Lx.St)
    (hs : s.stopped = false) (t : Nat) (ht : t ≠ eos) :
    t ∈ (m5Engine C words eos).mask s ↔ ((m5Engine C words eos).commit s t).isSome :=
  mask_eq_commit (m5Engine C words eos) s hs t ht

theorem runBytes_eq_run (C : Lx.Cfg) (words : List (List Byte)) (eos : Nat) (s : Lx.St) (bs : List Byte) :
    runBytes (m5Engine C words eos).recog s bs = Lx.run C s bs := by
  rw [runBytes_eq_foldlM, Lx.run_eq_foldlM]
  rfl

/-- end-to-end soundness of generation under the masks of the model engine -/
theorem c01_m5_generation_sound (C : Lx.Cfg) (hw : C.wf = true) (hg : C.g.wf = true)
    (words : List (List Byte)) (eos : Nat) (ts : List Nat) (s' : EngState Lx.St)
    (hne : ∀ t ∈ ts, t ≠ eos)
    (hrun : ts.foldlM (fun st t => (m5Engine C words eos).commit st t) (m5Init C) = some s')
    (hspecial : ∀ w, words[eos]? = some w → w = [] ∨ (runBytes (m5Engine C words eos).recog s'.st w).isNone)
    (heos : eos ∈ (m5Engine C words eos).mask s') :
    ∃ cs : List Lx.Chunk, ts.flatMap (fun t => (m5Engine C words eos).tokBytes t) = Lx.bytesOf cs ∧
      (∀ c ∈ cs, ∀ l ∈ c.S, Rx.lang (C.lx l).rx c.w) ∧
      Ey.Der C.g (Lx.nonSkipSets C cs) C.g.start 0 (Lx.nonSkipSets C cs).length := by
  have hacc : Lx.isAccepting C s'.st = true :=
    (eos_iff_accepting (m5Engine C words eos) s' hspecial).mp heos
  have hr : Lx.run C (Lx.init C) (ts.flatMap fun t => (m5Engine C words eos).tokBytes t) = some s'.st :=
    runBytes_eq_run C words eos _ _ ▸ commits_runBytes _ ts (m5Init C) s' hne hrun
  exact c05_bytes_sound C hw hg _ (Lx.accepts_iff.mpr ⟨_, hr, hacc⟩)

/-! non-vacuity: the example configuration of `C05Bytes` (`A: /a+/`, `B: "b"`), vocabulary `a`, `ab`,
`b`, special EOS: committing `a`, `ab` reaches a state whose mask holds EOS -/
example :
    let c := m5Engine exCfgB [[97], [97, 98], [98], [0xFF, 60]] 3
    (([0, 1] : List Nat).foldlM (fun st t => c.commit st t) (m5Init exCfgB)).isSome = true ∧
    ((([0, 1] : List Nat).foldlM (fun st t => c.commit st t) (m5Init exCfgB)).map (fun s => decide (3 ∈ c.mask s))) = some true := by
  decide +kernel

end LlgVerif
